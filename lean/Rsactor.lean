import Rsactor.Basic
import Rsactor.Macro
import Rsactor.Extracted
import Rsactor.Tables
import Rsactor.Ties
import Rsactor.Model
import Rsactor.Monitor
import Rsactor.Exec
import Rsactor.Net
import Rsactor.GraphSpec
import Rsactor.Inv.Helpers
import Rsactor.Inv.Tactics
import Rsactor.Inv.Step
import Rsactor.Inv.StepFacts
import Rsactor.Inv.Cap
import Rsactor.Inv.Dead
import Rsactor.Inv.Fifo
import Rsactor.Inv.Handles
import Rsactor.Inv.Ids
import Rsactor.Inv.Kill
import Rsactor.Inv.KillBound
import Rsactor.Inv.Life
import Rsactor.Inv.Result
import Rsactor.Inv.SendErr
import Rsactor.Inv.TellRes
import Rsactor.Inv.Time
import Rsactor.Inv.End
import Rsactor.Inv.Rej
import Rsactor.Inv.Run
import Rsactor.Inv.Stop
import Rsactor.Inv.OkAcc
import Rsactor.Inv.OkStop
import Rsactor.Inv.Progress
import Rsactor.Inv.NetInv
import Rsactor.Props.C01
import Rsactor.Props.C02
import Rsactor.Props.C03
import Rsactor.Props.C04
import Rsactor.Props.C05
import Rsactor.Props.C06
import Rsactor.Props.C07
import Rsactor.Props.C08
import Rsactor.Props.C09
import Rsactor.Props.C10
import Rsactor.Props.C11
import Rsactor.Props.C12
import Rsactor.Props.C13
import Rsactor.Props.C14
import Rsactor.Props.C15
import Rsactor.Props.C16
import Rsactor.Props.C17
import Rsactor.Props.C18
import Rsactor.Props.C19
import Rsactor.Props.C20
