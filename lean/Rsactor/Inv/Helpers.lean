/- Facts about lists and about the helper functions used inside `Model.step?` (`setF`, `opItem`, `complete`, `finish`,
   `failSend`, `afterPush`, `afterStrand`, `dropReplies`), and `run?` over an appended label list. -/
import Rsactor.Model

namespace Rsactor.Model

theorem foldl_fixed {α β : Type} {f : β → α → β} {b : β} {c : List α} (h : ∀ a ∈ c, f b a = b) : c.foldl f b = b := by
  induction c with
  | nil => rfl
  | cons a c ih =>
    rw [List.foldl_cons, h a (List.mem_cons_self ..)]
    exact ih fun a ha => h a (List.mem_cons_of_mem _ ha)

/-- the two ways an `if` yields a value (`Option.ite_none_right_eq_some` / `_left_` cover a branch that is `none`) -/
theorem ite_eq_some {α : Type} {c : Prop} [Decidable c] {a b : Option α} {x : α} (h : (if c then a else b) = some x) :
    c ∧ a = some x ∨ ¬ c ∧ b = some x := by
  split at h
  · exact .inl ⟨‹_›, h⟩
  · exact .inr ⟨‹_›, h⟩

theorem mem_of_find? {α : Type} {l : List α} {p : α → Prop} [DecidablePred p] {a : α}
    (hf : l.find? (fun x => decide (p x)) = some a) : a ∈ l ∧ p a :=
  ⟨List.mem_of_find?_eq_some hf, of_decide_eq_true (List.find?_some (p := fun x => decide (p x)) hf)⟩

theorem find?_of_mem {α : Type} {l : List α} {p : α → Prop} [DecidablePred p] {a : α} (ha : a ∈ l) (hp : p a) :
    ∃ b, l.find? (fun x => decide (p x)) = some b :=
  Option.isSome_iff_exists.mp (List.find?_isSome.mpr ⟨a, ha, decide_eq_true hp⟩)

theorem nodup_snoc {α : Type} {l : List α} {a : α} (hl : l.Nodup) (ha : a ∉ l) : (l ++ [a]).Nodup :=
  List.nodup_append.mpr
    ⟨hl, List.pairwise_singleton _ _, fun _ hx _ hy he => ha (List.mem_singleton.mp hy ▸ he ▸ hx)⟩

theorem take_succ_of_drop {α : Type} (l : List α) (n : Nat) (x : α) (rest : List α)
    (h : l.drop n = x :: rest) : l.take (n + 1) = l.take n ++ [x] ∧ l.drop (n + 1) = rest ∧ n < l.length := by
  have hn : n < l.length := Nat.lt_of_not_le fun hle => by rw [List.drop_eq_nil_of_le hle] at h; cases h
  rw [List.drop_eq_getElem_cons hn] at h
  cases h
  exact ⟨List.take_succ_eq_append_getElem hn, rfl, hn⟩

theorem mem_take_iff {α : Type} {l : List α} {n : Nat} {a : α} : a ∈ l.take n ↔ ∃ j, j < n ∧ l[j]? = some a := by
  refine List.mem_iff_getElem?.trans (exists_congr fun j => ?_)
  rw [List.getElem?_take]
  split
  · exact (and_iff_right ‹_›).symm
  · exact ⟨nofun, fun h => absurd h.1 ‹_›⟩

theorem run_append (s : Sys) (a b : List Label) :
    run? s (a ++ b) = (run? s a).bind (fun s' => run? s' b) := by
  induction a generalizing s with
  | nil => rfl
  | cons l ls ih =>
    simp only [List.cons_append, run?]
    split
    · rfl
    · exact ih _

theorem setF_self {β : Type} (f : Nat → β) (k : Nat) (v : β) : setF f k v k = v := if_pos rfl

theorem setF_ne {β : Type} {f : Nat → β} {k x : Nat} {v : β} (h : x ≠ k) : setF f k v x = f x := if_neg h

theorem setF_eq_or {β : Type} {f : Nat → β} {k x : Nat} {v w : β} (h : setF f k v x = w) : x = k ∨ f x = w := by
  unfold setF at h; split at h
  · exact .inl ‹_›
  · exact .inr h

theorem setF_eq_of_ne {β : Type} {f : Nat → β} {k x : Nat} {v w : β} (h : setF f k v x = w) (hv : v ≠ w) :
    x ≠ k ∧ f x = w := by
  unfold setF at h; split at h
  · exact absurd h hv
  · exact ⟨‹_›, h⟩

theorem opItem_none {oid : Nat} {k : OpKind} (h : opItem oid k = none) : k = .kill := by
  cases k with
  | kill => rfl
  | _ => cases h

theorem opItem_ne_kill {oid : Nat} {k : OpKind} {it : Item} (h : opItem oid k = some it) : k ≠ .kill := by
  rintro rfl; cases h

theorem opItem_oid {oid : Nat} {k : OpKind} {it : Item} (h : opItem oid k = some it) : it.oid = oid := by
  cases k <;> cases h <;> rfl

theorem opItem_ask {oid mid : Nat} {k : OpKind} (h : opItem oid k = some (.env mid .ask)) : k = .ask := by
  cases k <;> first | rfl | cases h

section
variable (s : Sys) (oid : Nat) (r : Res) (why : Option Reason)
@[simp] theorem complete_cap : (s.complete oid r why).cap = s.cap := rfl
@[simp] theorem complete_script : (s.complete oid r why).script = s.script := rfl
@[simp] theorem complete_mbox : (s.complete oid r why).mbox = s.mbox := rfl
@[simp] theorem complete_waiters : (s.complete oid r why).waiters = s.waiters := rfl
@[simp] theorem complete_stranded : (s.complete oid r why).stranded = s.stranded := rfl
@[simp] theorem complete_termSlot : (s.complete oid r why).termSlot = s.termSlot := rfl
@[simp] theorem complete_rxOpen : (s.complete oid r why).rxOpen = s.rxOpen := rfl
@[simp] theorem complete_pc : (s.complete oid r why).pc = s.pc := rfl
@[simp] theorem complete_idleEnabled : (s.complete oid r why).idleEnabled = s.idleEnabled := rfl
@[simp] theorem complete_runLive : (s.complete oid r why).runLive = s.runLive := rfl
@[simp] theorem complete_runIdx : (s.complete oid r why).runIdx = s.runIdx := rfl
@[simp] theorem complete_gatePermits : (s.complete oid r why).gatePermits = s.gatePermits := rfl
@[simp] theorem complete_taskRef : (s.complete oid r why).taskRef = s.taskRef := rfl
@[simp] theorem complete_handles : (s.complete oid r why).handles = s.handles := rfl
@[simp] theorem complete_nextHid : (s.complete oid r why).nextHid = s.nextHid := rfl
@[simp] theorem complete_inflight : (s.complete oid r why).inflight = s.inflight - 1 := rfl
@[simp] theorem complete_client : (s.complete oid r why).client = setF s.client oid (.done r) := rfl
@[simp] theorem complete_spec : (s.complete oid r why).spec = s.spec := rfl
@[simp] theorem complete_deadline : (s.complete oid r why).deadline = s.deadline := rfl
@[simp] theorem complete_reply : (s.complete oid r why).reply = s.reply := rfl
@[simp] theorem complete_nextOid : (s.complete oid r why).nextOid = s.nextOid := rfl
@[simp] theorem complete_clock : (s.complete oid r why).clock = s.clock := rfl
@[simp] theorem complete_accepted : (s.complete oid r why).accepted = s.accepted := rfl
@[simp] theorem complete_taken : (s.complete oid r why).taken = s.taken := rfl
@[simp] theorem complete_acceptedAtMail : (s.complete oid r why).acceptedAtMail = s.acceptedAtMail := rfl
@[simp] theorem complete_hooks : (s.complete oid r why).hooks = s.hooks := rfl
@[simp] theorem complete_msgCount : (s.complete oid r why).msgCount = s.msgCount := rfl
@[simp] theorem complete_result : (s.complete oid r why).result = s.result := rfl
@[simp] theorem complete_dead :
    (s.complete oid r why).dead = (match why with | some w => s.dead ++ [(oid, w)] | none => s.dead) := rfl
@[simp] theorem complete_ev :
    (s.complete oid r why).ev =
      s.ev ++ (match why with | some w => [Ev.dead oid w] | none => []) ++ [Ev.ret oid r s.clock] := rfl
end

theorem complete_ev_none (b : Sys) (oid : Nat) (r : Res) :
    (b.complete oid r none).ev = b.ev ++ [.ret oid r b.clock] := by simp

theorem complete_ev_some (b : Sys) (oid : Nat) (r : Res) (w : Reason) :
    (b.complete oid r (some w)).ev = b.ev ++ [.dead oid w, .ret oid r b.clock] := by simp

theorem ret_mem_complete {oid o a c : Nat} {r r' : Res} {why : Option Reason}
    (hm : Ev.ret o r' a ∈ (match why with | some w => [Ev.dead oid w] | none => []) ++ [Ev.ret oid r c]) :
    o = oid ∧ r' = r := by
  cases why <;> simp at hm <;> exact ⟨hm.1, hm.2.1⟩

theorem mem_complete_ev {b : Sys} {oid o a : Nat} {r r' : Res} {why : Option Reason}
    (hm : Ev.ret o r' a ∈ (b.complete oid r why).ev) : Ev.ret o r' a ∈ b.ev ∨ (o = oid ∧ r' = r) := by
  rw [complete_ev, List.append_assoc] at hm
  exact (List.mem_append.mp hm).imp_right ret_mem_complete

section
variable (s : Sys) (o : Outcome) (evs : List Ev)
@[simp] theorem finish_cap : (s.finish o evs).cap = s.cap := rfl
@[simp] theorem finish_script : (s.finish o evs).script = s.script := rfl
@[simp] theorem finish_mbox : (s.finish o evs).mbox = [] := rfl
@[simp] theorem finish_waiters : (s.finish o evs).waiters = s.waiters := rfl
@[simp] theorem finish_stranded : (s.finish o evs).stranded = s.stranded := rfl
@[simp] theorem finish_termSlot : (s.finish o evs).termSlot = s.termSlot := rfl
@[simp] theorem finish_rxOpen : (s.finish o evs).rxOpen = false := rfl
@[simp] theorem finish_pc : (s.finish o evs).pc = .ended := rfl
@[simp] theorem finish_idleEnabled : (s.finish o evs).idleEnabled = s.idleEnabled := rfl
@[simp] theorem finish_runLive : (s.finish o evs).runLive = false := rfl
@[simp] theorem finish_runIdx : (s.finish o evs).runIdx = s.runIdx := rfl
@[simp] theorem finish_gatePermits : (s.finish o evs).gatePermits = s.gatePermits := rfl
@[simp] theorem finish_taskRef : (s.finish o evs).taskRef = false := rfl
@[simp] theorem finish_handles : (s.finish o evs).handles = s.handles := rfl
@[simp] theorem finish_nextHid : (s.finish o evs).nextHid = s.nextHid := rfl
@[simp] theorem finish_inflight : (s.finish o evs).inflight = s.inflight := rfl
@[simp] theorem finish_client : (s.finish o evs).client = s.client := rfl
@[simp] theorem finish_spec : (s.finish o evs).spec = s.spec := rfl
@[simp] theorem finish_deadline : (s.finish o evs).deadline = s.deadline := rfl
@[simp] theorem finish_reply : (s.finish o evs).reply = dropReplies s.mbox s.reply := rfl
@[simp] theorem finish_nextOid : (s.finish o evs).nextOid = s.nextOid := rfl
@[simp] theorem finish_clock : (s.finish o evs).clock = s.clock := rfl
@[simp] theorem finish_accepted : (s.finish o evs).accepted = s.accepted := rfl
@[simp] theorem finish_taken : (s.finish o evs).taken = s.taken := rfl
@[simp] theorem finish_acceptedAtMail : (s.finish o evs).acceptedAtMail = s.acceptedAtMail := rfl
@[simp] theorem finish_hooks : (s.finish o evs).hooks = s.hooks := rfl
@[simp] theorem finish_dead : (s.finish o evs).dead = s.dead := rfl
@[simp] theorem finish_msgCount : (s.finish o evs).msgCount = s.msgCount := rfl
@[simp] theorem finish_result : (s.finish o evs).result = some o := rfl
@[simp] theorem finish_ev : (s.finish o evs).ev = s.ev ++ evs ++ [Ev.joined o] := rfl
end

theorem finish_ev_assoc (b : Sys) (o : Outcome) (evs : List Ev) : (b.finish o evs).ev = b.ev ++ (evs ++ [.joined o]) :=
  List.append_assoc ..

theorem dropReplies_sent {mb : List Item} {r : Nat → RSt} {m : Nat} (h : dropReplies mb r m = .sent) : r m = .sent := by
  unfold dropReplies at h; split at h <;> first | cases h | exact h

/-! ### `failSend`: `complete` with a result depending on the item -/
theorem failSend_eq (s : Sys) (oid : Nat) (it : Item) :
    s.failSend oid it =
      match it with
      | .env _ _ => s.complete oid .send (some .actorStopped)
      | .stop _ => s.complete oid .ok none := by
  cases it <;> rfl

@[simp] theorem failSend_pc (s : Sys) (oid : Nat) (it : Item) : (s.failSend oid it).pc = s.pc := by
  cases it <;> rfl
@[simp] theorem afterPush_pc (s : Sys) (it : Item) : (s.afterPush it).pc = s.pc := by
  rcases it with ⟨_, _ | _⟩ | _ <;> rfl
@[simp] theorem afterStrand_pc (s : Sys) (it : Item) : (s.afterStrand it).pc = s.pc := by
  rcases it with ⟨_, _ | _⟩ | _ <;> rfl
@[simp] theorem failSend_accepted (s : Sys) (oid : Nat) (it : Item) : (s.failSend oid it).accepted = s.accepted := by
  cases it <;> rfl
@[simp] theorem afterPush_accepted (s : Sys) (it : Item) : (s.afterPush it).accepted = s.accepted ++ [it] := by
  rcases it with ⟨_, _ | _⟩ | _ <;> rfl
@[simp] theorem afterStrand_accepted (s : Sys) (it : Item) : (s.afterStrand it).accepted = s.accepted := by
  rcases it with ⟨_, _ | _⟩ | _ <;> rfl
@[simp] theorem failSend_taken (s : Sys) (oid : Nat) (it : Item) : (s.failSend oid it).taken = s.taken := by
  cases it <;> rfl
@[simp] theorem afterPush_taken (s : Sys) (it : Item) : (s.afterPush it).taken = s.taken := by
  rcases it with ⟨_, _ | _⟩ | _ <;> rfl
@[simp] theorem afterStrand_taken (s : Sys) (it : Item) : (s.afterStrand it).taken = s.taken := by
  rcases it with ⟨_, _ | _⟩ | _ <;> rfl
@[simp] theorem failSend_handles (s : Sys) (oid : Nat) (it : Item) : (s.failSend oid it).handles = s.handles := by
  cases it <;> rfl
@[simp] theorem failSend_nextHid (s : Sys) (oid : Nat) (it : Item) : (s.failSend oid it).nextHid = s.nextHid := by
  cases it <;> rfl
@[simp] theorem afterPush_handles (s : Sys) (it : Item) : (s.afterPush it).handles = s.handles := by
  rcases it with ⟨_, _ | _⟩ | _ <;> rfl
@[simp] theorem afterPush_nextHid (s : Sys) (it : Item) : (s.afterPush it).nextHid = s.nextHid := by
  rcases it with ⟨_, _ | _⟩ | _ <;> rfl
@[simp] theorem afterStrand_handles (s : Sys) (it : Item) : (s.afterStrand it).handles = s.handles := by
  rcases it with ⟨_, _ | _⟩ | _ <;> rfl
@[simp] theorem afterStrand_nextHid (s : Sys) (it : Item) : (s.afterStrand it).nextHid = s.nextHid := by
  rcases it with ⟨_, _ | _⟩ | _ <;> rfl
theorem failSend_rxOpen (s : Sys) (oid : Nat) (it : Item) : (s.failSend oid it).rxOpen = s.rxOpen := by
  cases it <;> rfl
theorem afterPush_rxOpen (s : Sys) (it : Item) : (s.afterPush it).rxOpen = s.rxOpen := by
  rcases it with ⟨_, _ | _⟩ | _ <;> rfl
theorem afterStrand_rxOpen (s : Sys) (it : Item) : (s.afterStrand it).rxOpen = s.rxOpen := by
  rcases it with ⟨_, _ | _⟩ | _ <;> rfl
theorem failSend_mbox (s : Sys) (oid : Nat) (it : Item) :
    (s.failSend oid it).mbox = s.mbox ∧ (s.failSend oid it).waiters = s.waiters ∧
    (s.failSend oid it).cap = s.cap := by
  cases it <;> exact ⟨rfl, rfl, rfl⟩
theorem afterPush_mbox (s : Sys) (it : Item) :
    (s.afterPush it).mbox = s.mbox ++ [it] ∧ (s.afterPush it).waiters = s.waiters ∧
    (s.afterPush it).cap = s.cap := by
  rcases it with ⟨_, _ | _⟩ | _ <;> exact ⟨rfl, rfl, rfl⟩
theorem afterStrand_mbox (s : Sys) (it : Item) :
    (s.afterStrand it).mbox = s.mbox ∧ (s.afterStrand it).waiters = s.waiters ∧
    (s.afterStrand it).cap = s.cap := by
  rcases it with ⟨_, _ | _⟩ | _ <;> exact ⟨rfl, rfl, rfl⟩

theorem afterPush_of_ne_ask (s : Sys) {it : Item} (h : ∀ m, it ≠ .env m .ask) :
    s.afterPush it = { s with mbox := s.mbox ++ [it], accepted := s.accepted ++ [it],
                              ev := s.ev ++ [Ev.accepted it.oid s.accepted.length] }.complete it.oid .ok none := by
  cases it with
  | stop o => rfl
  | env m k => cases k <;> first | rfl | exact absurd rfl (h m)

theorem afterStrand_of_ne_ask (s : Sys) {it : Item} (h : ∀ m, it ≠ .env m .ask) :
    s.afterStrand it = { s with stranded := s.stranded ++ [it] }.complete it.oid .ok none := by
  cases it with
  | stop o => rfl
  | env m k => cases k <;> first | rfl | exact absurd rfl (h m)

end Rsactor.Model
