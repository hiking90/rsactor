/- C01 `rejected_never`: an operation that returned Send (or a tell that returned Timeout) has not been
   accepted and is no longer queued for a permit, hence can never be accepted or handled. -/
import Rsactor.Inv.Ids

namespace Rsactor.Model

def Rejected (s : Sys) (oid : Nat) : Prop :=
  ∃ a, Ev.ret oid .send a ∈ s.ev ∨ (Ev.ret oid .timeout a ∈ s.ev ∧ (s.spec oid).kind = .tell)

theorem rejected_lt (s : Sys) (hi : IdsInv s) {oid : Nat} (h : Rejected s oid) : oid < s.nextOid := by
  obtain ⟨a, h | ⟨h, _⟩⟩ := h <;> exact hi.retLt _ _ _ h

/-- no return of `o` among the new events (once `o` has returned, `spec o` is fixed) -/
theorem Rejected.before_log {s s' : Sys} {c : List Ev} {o : Nat} (h : Rejected s' o) (hev : s'.ev = s.ev ++ c)
    (hn : ∀ r a, Ev.ret o r a ∉ c) (hsp : ∀ r a, Ev.ret o r a ∈ s.ev → s'.spec o = s.spec o) :
    Rejected s o := by
  obtain ⟨a, h⟩ := h
  rw [hev] at h
  have key {r} (hm : Ev.ret o r a ∈ s.ev ++ c) : Ev.ret o r a ∈ s.ev :=
    (List.mem_append.mp hm).resolve_right (hn r a)
  exact ⟨a, h.imp key fun ⟨hm, hk⟩ => ⟨key hm, hsp _ _ (key hm) ▸ hk⟩⟩

theorem Rejected.of_issue {s : Sys} {op : OpSpec} {o : Nat} (hi : IdsInv s) (h : Rejected (issueBase s op) o) :
    Rejected s o :=
  h.before_log (c := [_]) rfl (fun _ _ hm => nomatch List.mem_singleton.mp hm)
    fun r a hm => setF_ne (Nat.ne_of_lt (hi.retLt o r a hm))

def RejInv (s : Sys) : Prop := ∀ oid, Rejected s oid → oid ∉ accOids s ∧ oid ∉ keysOf s

theorem RejInv.congr {s s' : Sys} (h : RejInv s) (hr : ∀ o, Rejected s' o → Rejected s o)
    (ha : s'.accepted = s.accepted) (hw : wkeys s'.waiters = wkeys s.waiters) : RejInv s' :=
  fun o ho => by rw [accOids, keysOf, ha, hw]; exact h o (hr o ho)

theorem RejInv.frame {s s' : Sys} (h : RejInv s) (hf : ClientFrame s s')
    (hw : wkeys s'.waiters = wkeys s.waiters) : RejInv s' := by
  obtain ⟨c, hc, hp⟩ := hf.ev
  exact h.congr (fun o ho => ho.before_log hc (fun r a hm => hp _ hm rfl) fun _ _ _ => congrFun hf.spec o)
    hf.accepted hw

theorem RejInv.complete {b : Sys} {oid : Nat} {r : Res} {why : Option Reason} (h : RejInv b)
    (hs : r = .send → oid ∉ accOids b ∧ oid ∉ keysOf b)
    (ht : r = .timeout → (b.spec oid).kind = .tell → oid ∉ accOids b ∧ oid ∉ keysOf b) :
    RejInv (b.complete oid r why) := by
  intro o ⟨a, hm⟩
  rcases hm with hm | ⟨hm, hk⟩
  · rcases mem_complete_ev hm with hm | ⟨rfl, hr⟩
    · exact h o ⟨a, .inl hm⟩
    · exact hs hr.symm
  · rcases mem_complete_ev hm with hm | ⟨rfl, hr⟩
    · exact h o ⟨a, .inr ⟨hm, hk⟩⟩
    · exact ht hr.symm hk

theorem RejInv.issue {s : Sys} {op : OpSpec} (h : RejInv s) (hi : IdsInv s) : RejInv (issueBase s op) :=
  fun o ho => h o (ho.of_issue hi)

/-- a new waiter for the operation being issued: nothing with this id has returned -/
theorem RejInv.enqueue {s : Sys} {op : OpSpec} {it : Item} {g a : Bool} (h : RejInv s) (hi : IdsInv s) :
    RejInv { issueBase s op with waiters := s.waiters ++ [⟨s.nextOid, it, g, a⟩],
                                 client := setF s.client s.nextOid .waiting } := by
  intro o ho
  have ho : Rejected s o := Rejected.of_issue hi ho
  refine ⟨(h o ho).1, fun hm => ?_⟩
  rw [keysOf, wkeys_append, List.map_append] at hm
  exact (List.mem_append.mp hm).elim (h o ho).2 fun hm =>
    Nat.ne_of_lt (rejected_lt s hi ho) (List.mem_singleton.mp hm)

theorem RejInv.erase {s : Sys} (h : RejInv s) (w : Waiter) : RejInv { s with waiters := s.waiters.erase w } :=
  fun o ho => ⟨(h o ho).1, fun hm => (h o ho).2 ((wkeys_erase_sublist s.waiters w).map _ |>.subset hm)⟩

/-- a waiter's item enters the mailbox: its operation was queued, so it was not rejected -/
theorem RejInv.accept {s : Sys} {w : Waiter} {it : Item} (h : RejInv s) (hi : IdsInv s) (hw : w ∈ s.waiters)
    (hit : w.item = it) :
    RejInv { s with waiters := s.waiters.erase w, mbox := s.mbox ++ [it], accepted := s.accepted ++ [it],
                    ev := s.ev ++ [Ev.accepted it.oid s.accepted.length] } := by
  subst hit
  intro o ho
  have ho : Rejected s o :=
    ho.before_log (c := [_]) rfl (fun _ _ hm => nomatch List.mem_singleton.mp hm) fun _ _ _ => rfl
  refine ⟨fun hm => ?_, (h.erase w o ho).2⟩
  rw [accOids, List.map_append] at hm
  rcases List.mem_append.mp hm with hm | hm
  · exact (h o ho).1 hm
  · have he : o = w.oid := (List.mem_singleton.mp hm).trans (hi.waiter hw).1
    exact (h o ho).2 (he ▸ List.mem_map_of_mem (f := (·.1)) (mem_wkeys hw))

theorem Reachable.rejInv {s : Sys} (h : Reachable s) : RejInv s := by
  induction h with
  | init => exact fun _ ⟨_, h⟩ => h.elim nofun fun h => nomatch h.1
  | @step s s' l hr st ih =>
    have hi := hr.idsInv
    cases st with
    | client hc =>
      cases hc with
      | kill | stopClosed => exact .complete (ih.issue hi) nofun nofun
      | sendClosed => exact .complete (ih.issue hi) (fun _ => hi.fresh) nofun
      | enqueue => exact ih.enqueue hi
      | wakeClosed w _ _ hw | wakeClosedStop w _ hw | timeoutSend w _ hw =>
        exact .complete (ih.erase w) (fun _ => hi.erased_notin hw) fun _ _ => hi.erased_notin hw
      | wakeGranted => exact ih.congr (fun _ => id) rfl (wkeys_map_acq ..)
      | push _ hw => exact .complete (ih.accept hi hw rfl) nofun nofun
      | pushAsk _ _ hw _ _ hit => exact ih.accept hi hw hit
      | strand w => exact .complete (ih.erase w) nofun nofun
      | strandAsk w => exact ih.erase w
      | timeoutAsk _ _ _ _ hc =>
        -- an ask that waits for its reply was accepted: its Timeout is not a rejection
        exact .complete ih nofun fun _ hk => nomatch (hr.askKind _ hc).symm.trans hk
      | reply | replyLost => exact .complete ih nofun nofun
    | actor ha => exact ih.frame ha.clientFrame ha.wkeys
    | owner hh => exact ih.frame hh.clientFrame (by cases hh <;> rfl)
    | gate | advance => exact ih

end Rsactor.Model
