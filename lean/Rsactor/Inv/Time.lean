/- C10: a Timeout is returned only by timed operations and never before the deadline. -/
import Rsactor.Inv.Ids
import Rsactor.Monitor

namespace Rsactor.Model
open Rsactor.Monitor

/-- no operation beyond `nextOid` has been issued; the `issued` event of an operation carries its `spec`, and its
    deadline was computed from the clock of that event; a Timeout was returned at or after the deadline -/
def TimeInv (s : Sys) : Prop :=
  (∀ oid, s.nextOid ≤ oid → opOf s.ev oid = none) ∧
  (∀ oid, oid < s.nextOid → ∃ a, opOf s.ev oid = some ((s.spec oid).kind, (s.spec oid).timeout, a) ∧
      s.deadline oid = opDeadline a (s.spec oid)) ∧
  (∀ oid at_, Ev.ret oid .timeout at_ ∈ s.ev → ∃ d, s.deadline oid = some d ∧ d ≤ at_)

theorem TimeInv.log {s s' : Sys} (h : TimeInv s) {c : List Ev} (hev : s'.ev = s.ev ++ c)
    (hsp : s'.spec = s.spec) (hdl : s'.deadline = s.deadline) (hno : s'.nextOid = s.nextOid)
    (hi : ∀ o k t a, Ev.issued o k t a ∉ c)
    (ht : ∀ o a, Ev.ret o .timeout a ∈ c → ∃ d, s.deadline o = some d ∧ d ≤ a) : TimeInv s' := by
  obtain ⟨h1, h2, h3⟩ := h
  have hop (o) : opOf (s.ev ++ c) o = opOf s.ev o := by
    have : c.findSome? (issuedOf o) = none :=
      List.findSome?_eq_none_iff.mpr fun e he => by cases e <;> first | rfl | exact absurd he (hi _ _ _ _)
    simp [opOf, this]
  simp only [TimeInv, hev, hsp, hdl, hno, hop, List.mem_append]
  exact ⟨h1, h2, fun oid at_ hm => hm.elim (h3 oid at_) (ht oid at_)⟩

theorem TimeInv.complete {b : Sys} {oid : Nat} {r : Res} {why : Option Reason} (h : TimeInv b)
    (hr : r = .timeout → ∃ d, b.deadline oid = some d ∧ d ≤ b.clock) : TimeInv (b.complete oid r why) := by
  -- the one `ret` that is logged carries `oid`, `r` and the clock
  have ht (o a : Nat) (he : Ev.ret o .timeout a = Ev.ret oid r b.clock) : ∃ d, b.deadline o = some d ∧ d ≤ a := by
    cases he; exact hr rfl
  cases why with
  | none =>
    exact h.log (complete_ev_none ..) rfl rfl rfl (fun _ _ _ _ hm => nomatch List.mem_singleton.mp hm)
      fun o a hm => ht o a (List.mem_singleton.mp hm)
  | some w =>
    refine h.log (complete_ev_some ..) rfl rfl rfl (fun _ _ _ _ hm => ?_) fun o a hm => ?_
    · cases hm with | tail _ hm => exact nomatch List.mem_singleton.mp hm
    · cases hm with | tail _ hm => exact ht o a (List.mem_singleton.mp hm)

theorem TimeInv.issue {s : Sys} {op : OpSpec} (h : TimeInv s) (hi : IdsInv s) : TimeInv (issueBase s op) := by
  obtain ⟨h1, h2, h3⟩ := h
  -- `opOf` reads the first `issued` event of `o`: the old answer, else the event logged here
  have hop (o) : opOf (issueBase s op).ev o =
      (opOf s.ev o).or (if s.nextOid = o then some (op.kind, op.timeout, s.clock) else none) := by
    simp [issueBase, opOf, List.findSome?_append, issuedOf]
  refine ⟨fun o ho => ?_, fun o ho => ?_, fun o at_ hm => ?_⟩
  all_goals simp only [issueBase] at *
  · rw [hop, h1 o (by omega)]; simp; omega
  · by_cases hon : o = s.nextOid
    · subst hon; exact ⟨s.clock, by rw [hop, h1 _ (Nat.le_refl _)]; simp [setF], by simp [setF]⟩
    · obtain ⟨a, ha1, ha2⟩ := h2 o (by omega)
      exact ⟨a, by rw [hop, ha1]; simp [setF, hon], by simp [setF, hon, ha2]⟩
  · simp at hm
    obtain ⟨d, hd, hle⟩ := h3 o at_ hm
    exact ⟨d, by simp [setF, Nat.ne_of_lt (hi.retLt o _ at_ hm), hd], hle⟩

theorem TimeInv.accept {s : Sys} {o i : Nat} (h : TimeInv s) : TimeInv { s with ev := s.ev ++ [.accepted o i] } :=
  h.log (c := [_]) rfl rfl rfl rfl (fun _ _ _ _ hm => nomatch List.mem_singleton.mp hm)
    fun _ _ hm => nomatch List.mem_singleton.mp hm

theorem Reachable.timeInv {s : Sys} (hr : Reachable s) : TimeInv s := by
  induction hr with
  | init => refine ⟨?_, ?_, ?_⟩ <;> simp [Model.init, opOf]
  | step hr st ih =>
    rcases st.client_or_frame with hc | hf
    · cases hc with
      | kill | sendClosed | stopClosed => exact TimeInv.complete (ih.issue hr.idsInv) nofun
      | enqueue => exact ih.issue hr.idsInv
      | wakeGranted | strandAsk => exact ih
      | pushAsk => exact ih.accept
      | push => exact TimeInv.complete ih.accept nofun
      | timeoutSend _ _ _ _ _ hd hc | timeoutAsk _ _ hd hc => exact TimeInv.complete ih fun _ => ⟨_, hd, hc⟩
      | _ => exact TimeInv.complete ih nofun
    · obtain ⟨c, hc, hp⟩ := hf.ev
      exact ih.log hc hf.spec hf.deadline hf.nextOid (fun _ _ _ _ hm => hp _ hm rfl)
        fun _ _ hm => absurd rfl (hp _ hm)

theorem opDeadline_eq_some {a d : Nat} {op : OpSpec} (h : opDeadline a op = some d) :
    ∃ d0, op.timeout = some d0 ∧ a + d0 = d := by
  unfold opDeadline at h
  split at h
  · exact Option.map_eq_some_iff.mp h
  · exact Option.map_eq_some_iff.mp h
  · cases h

theorem TimeInv.timeout_ret {s : Sys} (h : TimeInv s) (hi : IdsInv s) {oid at_ : Nat}
    (he : Ev.ret oid .timeout at_ ∈ s.ev) : ∃ k d0 a, opOf s.ev oid = some (k, some d0, a) ∧ a + d0 ≤ at_ := by
  obtain ⟨_, h2, h3⟩ := h
  obtain ⟨d, hd, hle⟩ := h3 oid at_ he
  obtain ⟨a, ha, hda⟩ := h2 oid (hi.retLt oid _ at_ he)
  obtain ⟨d0, ht, rfl⟩ := opDeadline_eq_some (hda.symm.trans hd)
  exact ⟨_, d0, a, ht ▸ ha, hle⟩

end Rsactor.Model
