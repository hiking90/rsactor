/- C05: the JoinHandle output is the one the hook events of the run dictate. -/
import Rsactor.Inv.Step
import Rsactor.Monitor

namespace Rsactor.Model
open Rsactor.Monitor

def killedOf : Pc → Option Bool
  | .stopping k _ _ => some k
  | _ => none

def runErrOf : Pc → Bool
  | .stopping _ r _ => r
  | _ => false

/-- the summary a live actor's history must have, from its program counter and the hooks that ran (`hooks` is set, not
    extended, when on_start returns: before that the summary has none) -/
def summAt (pc : Pc) (hooks : List Hook) : C05.Summ :=
  { panic := false, startErr := false, killed := killedOf pc, stopOut := none,
    log := match pc with | .starting => [] | _ => hooks,
    runErr := runErrOf pc, joined := [], stopPanic := false }

/-- what the summary of a finished actor's history satisfies: one `joined`, with the outcome `C05.expectedOf`
    computes (C05.ok); on_stop did not run after a failed on_start, and ran with a panic only if the panic was its
    own (the two clauses `C04.stopIffCause` adds) -/
def EndOk (m : C05.Summ) (o : Outcome) : Prop :=
  m.joined = [o] ∧ C05.expectedOf m = some o ∧ (m.startErr && m.killed.isSome) = false ∧
  (m.panic && (m.killed.isSome != m.stopPanic)) = false

def ResInv (s : Sys) : Prop :=
  (s.pc ≠ .ended → C05.summ s.ev = summAt s.pc s.hooks ∧ s.result = none) ∧
  (s.pc = .ended → ∃ o, s.result = some o ∧ EndOk (C05.summ s.ev) o)

theorem _root_.Rsactor.Monitor.C05.upd_of_not_actor {e : Ev} (h : e.party ≠ .actor) {m : C05.Summ} : C05.upd m e = m := by
  cases e <;> first | rfl | exact absurd rfl h

theorem ResInv.frame {s s' : Sys} (h : ResInv s) (hf : ActorFrame s s') : ResInv s' := by
  have hs : C05.summ s'.ev = C05.summ s.ev := hf.ev.foldl_eq fun e he => C05.upd_of_not_actor he
  unfold ResInv
  rw [hf.pc, hf.hooks, hf.result, hs]
  exact h

theorem summ_of_log {s s' : Sys} {c : List Ev} {pc : Pc} {hooks : List Hook} (hs : C05.summ s.ev = summAt s.pc hooks)
    (hpc : s.pc = pc) (hev : s'.ev = s.ev ++ c) : C05.summ s'.ev = c.foldl C05.upd (summAt pc hooks) := by
  rw [hev, C05.summ, List.foldl_append, ← C05.summ, hs, hpc]

theorem ResInv.of_log {s s' : Sys} {c : List Ev} {pc : Pc} (hs : C05.summ s.ev = summAt s.pc s.hooks) (hpc : s.pc = pc)
    (hev : s'.ev = s.ev ++ c) (h : c.foldl C05.upd (summAt pc s.hooks) = summAt s'.pc s'.hooks) (hr : s'.result = none)
    (hl : s'.pc ≠ .ended) : ResInv s' :=
  ⟨fun _ => ⟨(summ_of_log hs hpc hev).trans h, hr⟩, fun he => absurd he hl⟩

theorem ResInv.of_finish {b : Sys} {o : Outcome} {evs : List Ev} {pc : Pc} {hooks : List Hook}
    (hs : C05.summ b.ev = summAt b.pc hooks) (hpc : b.pc = pc)
    (h : EndOk ((evs ++ [Ev.joined o]).foldl C05.upd (summAt pc hooks)) o) : ResInv (b.finish o evs) :=
  ⟨fun h => absurd rfl h, fun _ => ⟨o, rfl, summ_of_log hs hpc (finish_ev_assoc ..) ▸ h⟩⟩

theorem RunStep.resInv {b s' : Sys} (h : RunStep b s') (hs : C05.summ b.ev = summAt b.pc b.hooks) (hr : b.result = none)
    (hpc : b.pc = .selRun) : ResInv s' := by
  cases h with
  | wait => exact .of_log hs hpc (List.append_nil _).symm rfl hr nofun
  | panic => exact .of_finish hs hpc ⟨rfl, rfl, rfl, rfl⟩
  | _ => exact .of_log hs hpc rfl rfl hr nofun

theorem Reachable.resInv {s : Sys} (h : Reachable s) : ResInv s := by
  induction h with
  | init => exact ⟨fun _ => ⟨rfl, rfl⟩, nofun⟩
  | step _ st ih =>
    rcases st.actor_or_frame with ha | hf
    · -- the actor steps only while alive
      obtain ⟨hs, hres⟩ := ih.1 ha.pc_ne_ended
      cases ha with
      | runAgain hpc _ _ hr => exact hr.resInv hs hres hpc
      -- `runPoll` leaves the summary of `selRun` as it is
      | runFresh hpc _ _ hr => exact hr.resInv ((summ_of_log hs hpc rfl).trans (hpc ▸ rfl)) hres hpc
      | startErr hpc | startPanic hpc | handlerPanic _ _ hpc => exact .of_finish hs hpc ⟨rfl, rfl, rfl, rfl⟩
      | stopDone _ runErr _ out hpc => cases out <;> cases runErr <;> exact .of_finish hs hpc ⟨rfl, rfl, rfl, rfl⟩
      | termPass hpc | mailEmpty hpc | runDisabled hpc | wake hpc =>
        exact .of_log hs hpc (List.append_nil _).symm rfl hres nofun
      | startOk hpc | termKill hpc | termClosed hpc | mailClosedKill hpc | mailClosed hpc | mailEnv _ _ _ hpc
      | mailStopKill _ _ hpc | mailStop _ _ hpc | handlerTell _ hpc | handlerAsk _ hpc =>
        exact .of_log hs hpc rfl rfl hres nofun
    · exact ih.frame hf

end Rsactor.Model
