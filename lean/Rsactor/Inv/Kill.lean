/- C04 `killed_only_if_kill`: on_stop(killed = true) is entered only after a kill() was issued. -/
import Rsactor.Inv.Step
import Rsactor.Monitor

namespace Rsactor.Model
open Rsactor.Monitor

def kFold (ev : List Ev) : Bool × Bool := ev.foldl C04.killStep (false, true)

/-- `st`: the fold over the history (kill seen, ok); `ts`: the control slot holds a kill signal -/
def KI (st : Bool × Bool) (ts : Bool) : Prop := st.2 = true ∧ (ts = true → st.1 = true)

def KInv (s : Sys) : Prop := KI (kFold s.ev) s.termSlot

/-- the step logged `c`: it is enough to run the fold over `c`, which on concrete events is a computation -/
theorem KInv.of_log {s s' : Sys} {c : List Ev} (hev : s'.ev = s.ev ++ c)
    (h : KI (c.foldl C04.killStep (kFold s.ev)) s'.termSlot) : KInv s' := by
  rw [KInv, hev, kFold, List.foldl_append]; exact h

theorem KInv.complete {b : Sys} {oid : Nat} {r : Res} {why : Option Reason} (h : KInv b) :
    KInv (b.complete oid r why) := by
  cases why <;> exact .of_log (List.append_assoc ..) h

theorem KInv.finish {b : Sys} {o : Outcome} {evs : List Ev} (h : KInv b)
    (hk : evs.foldl C04.killStep (kFold b.ev) = kFold b.ev) : KInv (b.finish o evs) := by
  refine .of_log (c := evs ++ [.joined o]) (finish_ev_assoc ..) ?_
  rw [List.foldl_append, hk]; exact h

theorem KInv.issue {s : Sys} {op : OpSpec} (h : KInv s) (hk : op.kind ≠ .kill) : KInv (issueBase s op) := by
  refine .of_log rfl ?_
  cases hkk : op.kind <;> first | exact h | exact absurd hkk hk

theorem RunStep.kInv {b s' : Sys} (h : RunStep b s') (hb : KInv b) : KInv s' := by
  cases h with
  | wait => exact hb
  | cont | disable | err => exact .of_log rfl hb
  | panic => exact hb.finish rfl

theorem Reachable.kInv {s : Sys} (h : Reachable s) : KInv s := by
  induction h with
  | init => exact ⟨rfl, nofun⟩
  | step _ st ih =>
    cases st with
    | client hc =>
      cases hc with
      | kill _ _ _ hk => exact .complete (.of_log rfl (by rw [hk]; exact ⟨ih.1, fun _ => rfl⟩))
      | sendClosed _ _ _ _ _ hi | stopClosed _ _ _ _ hi => exact .complete (ih.issue (opItem_ne_kill hi))
      | enqueue _ _ _ _ _ hi => exact ih.issue (opItem_ne_kill hi)
      | wakeGranted | strandAsk => exact ih
      | pushAsk => exact .of_log rfl ih
      | push => exact .complete (.of_log rfl ih)
      | _ => exact .complete ih
    | owner hh => cases hh <;> exact .of_log rfl ih
    | gate | advance => exact ih
    | actor ha =>
      cases ha with
      | termKill _ ht | mailClosedKill _ _ _ ht | mailStopKill _ _ _ _ ht =>
        -- the signal is taken out of the control slot: a kill() had put it there
        exact .of_log rfl ⟨Bool.and_eq_true_iff.mpr ⟨ih.1, ih.2 ht⟩, nofun⟩
      | runAgain _ _ _ hr => exact hr.kInv ih
      | runFresh _ _ _ hr => exact hr.kInv (.of_log rfl ih)
      | startErr | startPanic | handlerPanic | stopDone => exact ih.finish rfl
      | termPass | mailEmpty | runDisabled | wake => exact ih
      | _ => exact .of_log rfl ih

end Rsactor.Model
