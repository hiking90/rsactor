/- What a single step can do to the capacity, the acceptance log and the actor's program counter; the receivers are
   open exactly while the task lives. -/
import Rsactor.Inv.Step

namespace Rsactor.Model

theorem Step.cap {s s' : Sys} {l : Label} (st : Step s l s') : s'.cap = s.cap := by
  cases st with
  | client h | owner h | actor h => rw [h.writes]
  | gate | advance _ => rfl

theorem cap_run {s s' : Sys} {ls : List Label} (hr : run? s ls = some s') : s'.cap = s.cap :=
  run_inv (P := fun t => t.cap = s.cap) (fun h st => st.cap.trans h) rfl hr

theorem Step.accepted_grows {s s' : Sys} {l : Label} (st : Step s l s') : ∃ suffix, s'.accepted = s.accepted ++ suffix := by
  rcases st.client_or_frame with hc | hf
  · cases hc with
    | push | pushAsk => exact ⟨[_], rfl⟩
    | _ => exact ⟨[], (List.append_nil _).symm⟩
  · exact ⟨[], by rw [hf.accepted, List.append_nil]⟩

theorem accepted_grows_run {s s' : Sys} {ls : List Label} (hr : run? s ls = some s') :
    ∃ suffix, s'.accepted = s.accepted ++ suffix :=
  run_inv (P := fun t => ∃ suffix, t.accepted = s.accepted ++ suffix)
    (fun ⟨a, ha⟩ st => let ⟨b, hb⟩ := st.accepted_grows; ⟨a ++ b, by rw [hb, ha, List.append_assoc]⟩)
    ⟨[], (List.append_nil _).symm⟩ hr

theorem RunStep.enters_stopping {b s' : Sys} (h : RunStep b s') {k r m : Bool} (hpc : s'.pc = .stopping k r m) :
    r = true ∧ k = false := by
  cases h <;> cases hpc
  exact ⟨rfl, rfl⟩

theorem RunStep.panic_of_ended {b s' : Sys} (h : RunStep b s') (hend : s'.pc = .ended) : runOutAt b.script (b.runIdx - 1) = .panic := by
  cases h with
  | panic _ h => exact h
  | _ => cases hend

/-- the steps that take the actor into on_stop: the kill signal is consumed; the control channel is observed closed
    with no strong reference left; the stop marker is dequeued; the mailbox is observed closed and empty with no strong
    reference left (in these two the loop looks at the control channel once more); on_run returned an error -/
theorem Step.enters_stopping {s s' : Sys} {l : Label} (st : Step s l s') {k r m : Bool} (hpc : s'.pc = .stopping k r m)
    (hnot : ∀ k r m, s.pc ≠ .stopping k r m) :
    (l = .pollTerm ∧ s.termSlot = true ∧ k = true) ∨
    (l = .pollTerm ∧ s.termSlot = false ∧ s.strongCount = 0 ∧ k = false) ∨
    (l = .pollMail ∧ (∃ o rest, s.mbox = .stop o :: rest) ∧ k = s.termSlot ∧ m = true) ∨
    (l = .pollMail ∧ s.mbox = [] ∧ s.strongCount = 0 ∧ k = s.termSlot) ∨
    (l = .pollRun ∧ r = true ∧ k = false) := by
  rcases st.actor_or_frame with ha | hf
  · cases ha with
    | termKill _ ht => cases hpc; exact .inl ⟨rfl, ht, rfl⟩
    | termClosed _ ht h0 => cases hpc; exact .inr (.inl ⟨rfl, ht, h0, rfl⟩)
    | mailStopKill o rest _ hm ht | mailStop o rest _ hm ht =>
      cases hpc; exact .inr (.inr (.inl ⟨rfl, ⟨o, rest, hm⟩, ht.symm, rfl⟩))
    | mailClosedKill _ hm h0 ht | mailClosed _ hm h0 ht =>
      cases hpc; exact .inr (.inr (.inr (.inl ⟨rfl, hm, h0, ht.symm⟩)))
    | runAgain _ _ _ hr | runFresh _ _ _ hr => exact .inr (.inr (.inr (.inr ⟨rfl, hr.enters_stopping hpc⟩)))
    | _ => cases hpc
  · exact absurd (hf.pc ▸ hpc) (hnot _ _ _)

theorem Reachable.closed_iff {s : Sys} (h : Reachable s) : s.rxOpen = false ↔ s.pc = .ended := by
  induction h with
  | init => exact ⟨nofun, nofun⟩
  | step _ st ih =>
    rcases st.actor_or_frame with ha | hf
    · rcases ha.finish_or with ⟨_, _, _, rfl⟩ | ⟨hx, hpc⟩
      · exact ⟨fun _ => rfl, fun _ => rfl⟩
      · rw [hx]; exact ⟨fun hc => absurd (ih.mp hc) ha.pc_ne_ended, fun he => absurd he hpc⟩
    · rw [hf.rxOpen, hf.pc]; exact ih

theorem Reachable.open_of_live {s : Sys} (h : Reachable s) (hne : s.pc ≠ .ended) : s.rxOpen = true :=
  Bool.of_not_eq_false (mt h.closed_iff.mp hne)

end Rsactor.Model
