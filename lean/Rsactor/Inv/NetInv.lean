/- C14/C15: the wait-for map is exactly the set of unanswered in-flight asks (plus asks whose callee
   has died and whose asker has not resumed yet), for every run of the protocol. -/
import Rsactor.Net

namespace Rsactor.Net
open Rsactor.Extracted

theorem get?_remove (g : Graph) (k x : Nat) : (g.remove k).get? x = if x = k then none else g.get? x := by
  unfold Graph.get? Graph.remove
  rw [List.find?_filter]
  split
  · subst x; rw [List.find?_eq_none.mpr fun p _ h => by simp at h]; rfl
  · rename_i h
    congr 2; funext p
    cases hp : p.1 == x
    · simp
    · simp [h, beq_iff_eq.mp hp]

theorem get?_insert (g : Graph) (k v x : Nat) : (g.insert k v).get? x = if x = k then some v else g.get? x := by
  unfold Graph.insert Graph.get?
  rw [List.find?_append, Option.map_or]
  show ((g.remove k).get? x).or _ = _
  rw [get?_remove, List.find?_cons]
  split
  · subst x; rw [beq_self_eq_true]; rfl
  · rename_i h
    rw [beq_eq_false_iff_ne.mpr (Ne.symm h)]; exact Option.or_none

theorem eq_nil_of_get?_none (g : Graph) (h : ∀ x, g.get? x = none) : g = [] := by
  cases g with
  | nil => rfl
  | cons p ps =>
    have := h p.1
    rw [Graph.get?, List.find?_cons, beq_self_eq_true] at this
    cases this

theorem setN_self {β : Type} (f : Nat → β) (k : Nat) (v : β) : setN f k v k = v := if_pos rfl

theorem setN_ne {β : Type} {f : Nat → β} {k x : Nat} {v : β} (h : x ≠ k) : setN f k v x = f x := if_neg h

/-! ### `clear` touches the map only -/
theorem clear_eq (n : Net) (c t : Nat) : clear n c t = { n with graph := (clear n c t).graph } := by
  unfold clear; split <;> rfl

theorem clear_get? (n : Net) (c t x : Nat) :
    (clear n c t).graph.get? x = if x = c ∧ n.tokOf c = t then none else n.graph.get? x := by
  unfold clear
  split
  · rename_i hc
    rw [get?_remove, hc.2]
    split <;> rename_i hx
    · rw [if_pos ⟨hx, rfl⟩]
    · rw [if_neg fun h => hx h.1]
  · rename_i hc
    split
    · rename_i hx
      cases hg : n.graph.get? x with
      | none => rfl
      | some v => exact absurd ⟨by rw [← hx.1, hg]; rfl, hx.2⟩ hc
    · rfl

@[simp] theorem clear_tokOf (n : Net) (c t : Nat) : (clear n c t).tokOf = n.tokOf := by rw [clear_eq]
@[simp] theorem clear_asks (n : Net) (c t : Nat) : (clear n c t).asks = n.asks := by rw [clear_eq]
@[simp] theorem clear_busy (n : Net) (c t : Nat) : (clear n c t).busy = n.busy := by rw [clear_eq]
@[simp] theorem clear_dead (n : Net) (c t : Nat) : (clear n c t).dead = n.dead := by rw [clear_eq]
@[simp] theorem clear_nextTok (n : Net) (c t : Nat) : (clear n c t).nextTok = n.nextTok := by rw [clear_eq]
@[simp] theorem clear_ev (n : Net) (c t : Nat) : (clear n c t).ev = n.ev := by rw [clear_eq]

def waiting (st : AskSt) : Bool := st == .inflight || st == .lost
def holding (st : AskSt) : Bool := st == .inflight || st == .lost || st == .answered

abbrev Net.log (n : Net) (e : NEv) : Net := { n with ev := n.ev ++ [e] }

/-- actor `y` ends: the asks in flight to it are lost -/
abbrev Net.die (n : Net) (y : Nat) : Net :=
  { n with dead := setN n.dead y true, asks := loseTo n.asks y, ev := n.ev ++ [.died y] }

/-- the ask future of `t`, held by `a`, ends in state `st`: its guard runs `clear`, and `a` awaits nothing any more -/
abbrev Net.release (n : Net) (a t : Nat) (st : AskSt) : Net :=
  { n with graph := (clear n a t).graph, asks := setN n.asks t { n.asks t with st := st }, busy := setN n.busy a none }

/-- `step?` as a relation: the switches as the source has them, `clear` confined to the `graph` field (but for
    `replyLate`, where `clear_stale` shows that it changes nothing), the guards as hypotheses -/
inductive Step (n : Net) : NLabel → Net → Prop
  | askCycle {a b} (hd : n.dead a = false) (hb : n.busy a = none) (hc : (a == b || has_path n.graph b a) = true) :
    Step n (.ask a b) ((n.log (.deadlock a b (format_cycle_path n.graph a b))).die a)
  /-- the send to a dead callee fails at once and nothing is recorded: the event carries token 0, which no ask has
      (`NInv.tokPos`) -/
  | askDead {a b} (hd : n.dead a = false) (hb : n.busy a = none) (hc : (a == b || has_path n.graph b a) = false)
      (hdb : n.dead b = true) : Step n (.ask a b) (n.log (.asked a b 0))
  | ask {a b} (hd : n.dead a = false) (hb : n.busy a = none) (hc : (a == b || has_path n.graph b a) = false)
      (hdb : n.dead b = false) :
    Step n (.ask a b) (Net.log { n with graph := n.graph.insert a b, tokOf := setN n.tokOf a n.nextTok,
                                        asks := setN n.asks n.nextTok ⟨a, b, .inflight⟩,
                                        busy := setN n.busy a (some n.nextTok), nextTok := n.nextTok + 1 }
                               (.asked a b n.nextTok))
  | reply {t} (hst : (n.asks t).st = .inflight) :
    Step n (.reply t) (Net.log { n with graph := (clear n (n.asks t).caller t).graph,
                                        asks := setN n.asks t { n.asks t with st := .answered } } (.replied t))
  | replyLate {t} (hst : (n.asks t).st = .abandoned) : Step n (.reply t) ((clear n (n.asks t).caller t).log (.replied t))
  | resume {t} (hst : (n.asks t).st = .answered ∨ (n.asks t).st = .lost) :
    Step n (.resume t) ((n.release (n.asks t).caller t .done).log (.resumed t))
  | giveUp {t} (hst : holding (n.asks t).st = true) :
    Step n (.giveUp t) ((n.release (n.asks t).caller t .abandoned).log (.gaveUp t))
  | dieIdle {y} (hd : n.dead y = false) (hb : n.busy y = none) : Step n (.die y) (n.die y)
  | dieBusy {y t} (hd : n.dead y = false) (hb : n.busy y = some t) : Step n (.die y) ((n.release y t .abandoned).die y)

theorem Step.of_step? {n n' : Net} {l : NLabel} (hs : step? n l = some n') : Step n l n' := by
  -- the two switches are read from the source: should either change, this `change` fails and the relation with it
  change stepWith true true n l = some n' at hs
  cases l with
  | ask a b =>
    simp only [stepWith] at hs
    by_cases hg : n.dead a = true ∨ (n.busy a).isSome = true
    · rw [if_pos hg] at hs; cases hs
    · have hd : n.dead a = false := by cases h : n.dead a; rfl; exact absurd (.inl h) hg
      have hb : n.busy a = none := by cases h : n.busy a; rfl; exact absurd (.inr (h ▸ rfl)) hg
      rw [if_neg hg] at hs
      cases hc : (a == b || has_path n.graph b a) with
      | true => rw [if_pos hc] at hs; cases hs; exact .askCycle hd hb hc
      | false =>
        rw [if_neg (hc ▸ nofun)] at hs
        cases hdb : n.dead b with
        | true => rw [if_pos hdb] at hs; cases hs; exact .askDead hd hb hc hdb
        | false => rw [if_neg (hdb ▸ nofun)] at hs; cases hs; exact .ask hd hb hc hdb
  | reply t =>
    simp only [stepWith, if_true] at hs
    split at hs
    case h_1 hst => rw [clear_eq] at hs; cases hs; exact .reply hst
    case h_2 hst => cases hs; exact .replyLate hst
    case h_3 => cases hs
  | resume t =>
    simp only [stepWith, if_true] at hs
    rw [clear_eq] at hs
    split at hs
    case h_1 hst => cases hs; exact .resume (.inl hst)
    case h_2 hst => cases hs; exact .resume (.inr hst)
    case h_3 => cases hs
  | giveUp t =>
    simp only [stepWith, if_true] at hs
    rw [clear_eq] at hs
    split at hs
    case h_1 hst | h_2 hst | h_3 hst => cases hs; exact .giveUp (hst ▸ rfl)
    case h_4 => cases hs
  | die y =>
    simp only [stepWith, if_true] at hs
    split at hs
    · cases hs
    · rename_i hd
      cases hb : n.busy y with
      | none => simp only [hb] at hs; cases hs; exact .dieIdle (Bool.not_eq_true _ ▸ hd) hb
      | some t => simp only [hb] at hs; rw [clear_eq] at hs; cases hs; exact .dieBusy (Bool.not_eq_true _ ▸ hd) hb

structure NInv (n : Net) : Prop where
  edgeAsk : ∀ a b, n.graph.get? a = some b →
    (n.asks (n.tokOf a)).caller = a ∧ (n.asks (n.tokOf a)).callee = b ∧ waiting (n.asks (n.tokOf a)).st = true
  askEdge : ∀ t, waiting (n.asks t).st = true →
    n.graph.get? (n.asks t).caller = some (n.asks t).callee ∧ n.tokOf (n.asks t).caller = t
  busyAsk : ∀ a t, n.busy a = some t → (n.asks t).caller = a ∧ holding (n.asks t).st = true
  askBusy : ∀ t, holding (n.asks t).st = true → n.busy (n.asks t).caller = some t
  deadQuiet : ∀ y, n.dead y = true → n.busy y = none ∧ n.graph.get? y = none
  lostDead : ∀ t, (n.asks t).st = .lost → n.dead (n.asks t).callee = true
  fresh : ∀ t, n.nextTok ≤ t → (n.asks t).st = .none
  tokPos : 0 < n.nextTok

/-- the first two clauses: the map holds exactly the waiting asks, each under its asker and with its token -/
structure MapOk (g : Graph) (tokOf : Nat → Nat) (asks : Nat → AskRec) : Prop where
  edgeAsk : ∀ a b, g.get? a = some b →
    (asks (tokOf a)).caller = a ∧ (asks (tokOf a)).callee = b ∧ waiting (asks (tokOf a)).st = true
  askEdge : ∀ t, waiting (asks t).st = true → g.get? (asks t).caller = some (asks t).callee ∧ tokOf (asks t).caller = t

/-- the next two: an actor awaits exactly the ask it holds -/
structure BusyOk (busy : Nat → Option Nat) (asks : Nat → AskRec) : Prop where
  busyAsk : ∀ a t, busy a = some t → (asks t).caller = a ∧ holding (asks t).st = true
  askBusy : ∀ t, holding (asks t).st = true → busy (asks t).caller = some t

theorem NInv.mapOk {n : Net} (h : NInv n) : MapOk n.graph n.tokOf n.asks := ⟨h.edgeAsk, h.askEdge⟩

theorem NInv.busyOk {n : Net} (h : NInv n) : BusyOk n.busy n.asks := ⟨h.busyAsk, h.askBusy⟩

theorem waiting_holding {st : AskSt} (h : waiting st = true) : holding st = true := by
  show (waiting st || st == .answered) = true
  rw [h]; rfl

theorem NInv.edge_busy {n : Net} (h : NInv n) {a b : Nat} (hg : n.graph.get? a = some b) :
    n.busy a = some (n.tokOf a) := by
  obtain ⟨c1, _, c3⟩ := h.edgeAsk a b hg
  have := h.askBusy _ (waiting_holding c3)
  rwa [c1] at this

theorem NInv.no_edge_of_idle {n : Net} (h : NInv n) {a : Nat} (hb : n.busy a = none) : n.graph.get? a = none := by
  cases hg : n.graph.get? a with
  | none => rfl
  | some b => cases hb.symm.trans (h.edge_busy hg)

/-- when an ask future ends, its guard leaves the asker without an edge -/
theorem NInv.clear_edge {n : Net} (h : NInv n) {t : Nat} (hh : holding (n.asks t).st = true) :
    (clear n (n.asks t).caller t).graph.get? (n.asks t).caller = none := by
  rw [clear_get?]
  split
  · rfl
  · rename_i hne
    cases hg : n.graph.get? (n.asks t).caller with
    | none => rfl
    | some b => exact absurd ⟨rfl, Option.some.inj ((h.edge_busy hg).symm.trans (h.askBusy t hh))⟩ hne

/-- a clear that carries the token of an ask its asker has given up finds either no edge or a newer token: the graph
    (and everything else) is left as it is -/
theorem clear_stale {n : Net} (h : NInv n) {t : Nat} (hst : (n.asks t).st = .abandoned) :
    clear n (n.asks t).caller t = n := by
  unfold clear
  split
  · rename_i hc
    obtain ⟨hsome, htok⟩ := hc
    cases hg : n.graph.get? (n.asks t).caller with
    | none => rw [hg] at hsome; cases hsome
    | some b =>
      have := (h.edgeAsk _ b hg).2.2
      rw [htok, hst] at this
      cases this
  · rfl

/-! ### what the steps do to the parts of the invariant -/

theorem MapOk.congr {g : Graph} {tokOf : Nat → Nat} {asks asks' : Nat → AskRec} (h : MapOk g tokOf asks)
    (e : ∀ t, (asks' t).caller = (asks t).caller ∧ (asks' t).callee = (asks t).callee ∧
      waiting (asks' t).st = waiting (asks t).st) : MapOk g tokOf asks' where
  edgeAsk a b hg := by obtain ⟨e1, e2, e3⟩ := e (tokOf a); rw [e1, e2, e3]; exact h.edgeAsk a b hg
  askEdge t hw := by obtain ⟨e1, e2, e3⟩ := e t; rw [e1, e2]; exact h.askEdge t (e3 ▸ hw)

/-- the ask `t` stops waiting and `clear` runs with its token -/
theorem MapOk.clear {n : Net} {t a : Nat} {st' : AskSt} (h : MapOk n.graph n.tokOf n.asks)
    (ha : (n.asks t).caller = a) (hw : waiting st' = false) :
    MapOk (clear n a t).graph n.tokOf (setN n.asks t { n.asks t with st := st' }) where
  edgeAsk x y hg := by
    rw [clear_get?] at hg
    split at hg
    · cases hg
    · rename_i hx
      obtain ⟨c1, c2, c3⟩ := h.edgeAsk x y hg
      have hne : n.tokOf x ≠ t := fun e => by subst e; exact hx ⟨c1.symm.trans ha, ha ▸ c1.symm ▸ rfl⟩
      rw [setN_ne hne]; exact ⟨c1, c2, c3⟩
  askEdge t' hw' := by
    have htt : t' ≠ t := fun e => by subst e; rw [setN_self, hw] at hw'; cases hw'
    rw [setN_ne htt] at hw' ⊢
    obtain ⟨c1, c2⟩ := h.askEdge t' hw'
    rw [clear_get?, if_neg fun e : (n.asks t').caller = a ∧ n.tokOf a = t => htt (c2.symm.trans (e.1 ▸ e.2))]
    exact ⟨c1, c2⟩

/-- a new ask, under a token no waiting ask carries, of an actor without an edge -/
theorem MapOk.insert {g : Graph} {tokOf : Nat → Nat} {asks : Nat → AskRec} {a b t : Nat} (h : MapOk g tokOf asks)
    (hg : g.get? a = none) (hf : waiting (asks t).st = false) :
    MapOk (g.insert a b) (setN tokOf a t) (setN asks t ⟨a, b, .inflight⟩) where
  edgeAsk x y hx := by
    rw [get?_insert] at hx
    split at hx
    · subst x; cases hx; rw [setN_self, setN_self]; exact ⟨rfl, rfl, rfl⟩
    · rename_i hxa
      obtain ⟨c1, c2, c3⟩ := h.edgeAsk x y hx
      rw [setN_ne hxa, setN_ne fun e => by rw [e, hf] at c3; cases c3]; exact ⟨c1, c2, c3⟩
  askEdge t' hw := by
    by_cases htt : t' = t
    · subst htt; rw [setN_self]; exact ⟨by rw [get?_insert, if_pos rfl], setN_self ..⟩
    · rw [setN_ne htt] at hw ⊢
      obtain ⟨c1, c2⟩ := h.askEdge t' hw
      have hca : (asks t').caller ≠ a := fun e => by rw [e, hg] at c1; cases c1
      rw [get?_insert, if_neg hca, setN_ne hca]; exact ⟨c1, c2⟩

theorem BusyOk.congr {busy : Nat → Option Nat} {asks asks' : Nat → AskRec} (h : BusyOk busy asks)
    (e : ∀ t, (asks' t).caller = (asks t).caller ∧ holding (asks' t).st = holding (asks t).st) : BusyOk busy asks' where
  busyAsk a t hb := by rw [(e t).1, (e t).2]; exact h.busyAsk a t hb
  askBusy t hh := by rw [(e t).1]; exact h.askBusy t ((e t).2 ▸ hh)

/-- actor `a` and token `t`, awaited by nobody else and awaiting nothing else, are set together -/
theorem BusyOk.set {busy : Nat → Option Nat} {asks : Nat → AskRec} {a t : Nat} {r : AskRec} {v : Option Nat}
    (h : BusyOk busy asks) (hr : r.caller = a) (ha : ∀ t', busy a = some t' → t' = t)
    (ht : holding (asks t).st = true → (asks t).caller = a) (hv : v = if holding r.st = true then some t else none) :
    BusyOk (setN busy a v) (setN asks t r) where
  busyAsk a' t' hb := by
    by_cases haa : a' = a
    · subst haa hv
      rw [setN_self] at hb
      split at hb
      · cases hb; rw [setN_self]; exact ⟨hr, ‹_›⟩
      · cases hb
    · rw [setN_ne haa] at hb
      obtain ⟨c1, c2⟩ := h.busyAsk a' t' hb
      rw [setN_ne fun e => by subst e; exact haa (c1.symm.trans (ht c2))]; exact ⟨c1, c2⟩
  askBusy t' hh := by
    by_cases htt : t' = t
    · subst htt hv
      rw [setN_self] at hh ⊢
      rw [hr, setN_self, if_pos hh]
    · rw [setN_ne htt] at hh ⊢
      have hb := h.askBusy t' hh
      rw [setN_ne fun e : (asks t').caller = a => htt (ha t' (e ▸ hb))]; exact hb

theorem loseTo_same (asks : Nat → AskRec) (y t : Nat) :
    (loseTo asks y t).caller = (asks t).caller ∧ (loseTo asks y t).callee = (asks t).callee ∧
    waiting (loseTo asks y t).st = waiting (asks t).st ∧ holding (loseTo asks y t).st = holding (asks t).st := by
  unfold loseTo
  split
  · rename_i hc; rw [hc.2]; exact ⟨rfl, rfl, rfl, rfl⟩
  · exact ⟨rfl, rfl, rfl, rfl⟩

theorem loseTo_lost {asks : Nat → AskRec} {y t : Nat} (h : (loseTo asks y t).st = .lost) :
    (asks t).st = .lost ∨ (asks t).callee = y := by
  unfold loseTo at h
  split at h
  · exact .inr ‹_ ∧ _›.1
  · exact .inl h

theorem loseTo_none {asks : Nat → AskRec} {y t : Nat} (h : (asks t).st = .none) : (loseTo asks y t).st = .none := by
  unfold loseTo
  rw [if_neg fun e => by rw [h] at e; cases e.2]; exact h

theorem NInv.init : NInv init :=
  ⟨nofun, nofun, nofun, nofun, nofun, nofun, fun _ _ => rfl, Nat.one_pos⟩

theorem NInv.log {n : Net} {e : NEv} (h : NInv n) : NInv (n.log e) :=
  ⟨h.edgeAsk, h.askEdge, h.busyAsk, h.askBusy, h.deadQuiet, h.lostDead, h.fresh, h.tokPos⟩

theorem NInv.die {n : Net} {y : Nat} (h : NInv n) (hb : n.busy y = none) : NInv (n.die y) :=
  have e := loseTo_same n.asks y
  have m := h.mapOk.congr fun t => ⟨(e t).1, (e t).2.1, (e t).2.2.1⟩
  have b := h.busyOk.congr fun t => ⟨(e t).1, (e t).2.2.2⟩
  have q z (hd : setN n.dead y true z = true) : n.busy z = none ∧ n.graph.get? z = none := by
    by_cases hz : z = y
    · subst hz; exact ⟨hb, NInv.no_edge_of_idle h hb⟩
    · rw [setN_ne hz] at hd; exact h.deadQuiet z hd
  have l t (hl : (loseTo n.asks y t).st = .lost) : setN n.dead y true (loseTo n.asks y t).callee = true := by
    rw [(e t).2.1]
    rcases loseTo_lost hl with hq | hq
    · unfold setN; split; rfl; exact h.lostDead t hq
    · rw [hq]; exact setN_self ..
  ⟨m.edgeAsk, m.askEdge, b.busyAsk, b.askBusy, q, l, fun t ht => loseTo_none (h.fresh t ht), h.tokPos⟩

/-- assembling the invariant after `asks` has changed at one token that was in use -/
theorem NInv.set {n : Net} {g : Graph} {tokOf : Nat → Nat} {busy : Nat → Option Nat} {t k : Nat} {r : AskRec}
    {evs : List NEv} (h : NInv n) (m : MapOk g tokOf (setN n.asks t r)) (b : BusyOk busy (setN n.asks t r))
    (q : ∀ y, n.dead y = true → busy y = none ∧ g.get? y = none) (hr : r.st ≠ .lost) (ht : t < k)
    (hk : n.nextTok ≤ k) : NInv ⟨g, tokOf, setN n.asks t r, busy, n.dead, k, evs⟩ where
  edgeAsk := m.edgeAsk
  askEdge := m.askEdge
  busyAsk := b.busyAsk
  askBusy := b.askBusy
  deadQuiet := q
  lostDead t' := by
    show (setN n.asks t r t').st = .lost → n.dead (setN n.asks t r t').callee = true
    unfold setN; split
    · exact fun e => absurd e hr
    · exact h.lostDead t'
  fresh t' (ht' : k ≤ t') := by
    show (setN n.asks t r t').st = .none
    rw [setN_ne (by omega)]; exact h.fresh t' (by omega)
  tokPos := Nat.lt_of_lt_of_le h.tokPos hk

theorem NInv.lt_nextTok {n : Net} (h : NInv n) {t : Nat} (hh : holding (n.asks t).st = true) : t < n.nextTok :=
  Nat.lt_of_not_le fun hle => by rw [h.fresh t hle] at hh; cases hh

theorem clear_none {n : Net} {c t x : Nat} (h : n.graph.get? x = none) : (clear n c t).graph.get? x = none := by
  rw [clear_get?]; split; rfl; exact h

theorem NInv.release {n : Net} {t a : Nat} {st' : AskSt} (h : NInv n) (ha : (n.asks t).caller = a)
    (hh : holding (n.asks t).st = true) (hs : holding st' = false) : NInv (n.release a t st') :=
  have hba : n.busy a = some t := ha ▸ h.askBusy t hh
  h.set (h.mapOk.clear ha (by cases hw : waiting st'; rfl; rw [waiting_holding hw] at hs; cases hs))
    (h.busyOk.set ha (fun t' e => Option.some.inj (e.symm.trans hba)) (fun _ => ha) (by rw [hs]; rfl))
    (fun y hd => ⟨by unfold setN; split; rfl; exact (h.deadQuiet y hd).1, clear_none (h.deadQuiet y hd).2⟩)
    (fun e : st' = .lost => by rw [e] at hs; cases hs) (h.lt_nextTok hh) (Nat.le_refl _)

theorem NInv.step {n n' : Net} {l : NLabel} (h : NInv n) (st : Step n l n') : NInv n' := by
  cases st with
  | askCycle _ hb => exact h.log.die hb
  | askDead => exact h.log
  | ask hd hb =>
    -- no cycle would close, `b` is alive: the edge is inserted under the same lock
    have hf : (n.asks n.nextTok).st = .none := h.fresh _ (Nat.le_refl _)
    refine NInv.log (h.set (h.mapOk.insert (NInv.no_edge_of_idle h hb) (by rw [hf]; rfl))
      (h.busyOk.set rfl (fun t' e => by rw [hb] at e; cases e) (fun e => by rw [hf] at e; cases e) rfl)
      (fun y hy => ?_) nofun (Nat.lt_succ_self _) (Nat.le_succ _))
    have hya : y ≠ _ := fun e => by rw [e, hd] at hy; cases hy
    rw [setN_ne hya, get?_insert, if_neg hya]; exact h.deadQuiet y hy
  | reply hst =>
    -- the reply sender clears the asker's edge first; the asker still holds the ask
    refine NInv.log (h.set (h.mapOk.clear rfl rfl) (h.busyOk.congr fun t' => ?_)
      (fun y hd => ⟨(h.deadQuiet y hd).1, clear_none (h.deadQuiet y hd).2⟩) nofun (h.lt_nextTok (hst ▸ rfl))
      (Nat.le_refl _))
    unfold setN; split
    · rename_i e; subst e; rw [hst]; exact ⟨rfl, rfl⟩
    · exact ⟨rfl, rfl⟩
  | replyLate hst => rw [clear_stale h hst]; exact h.log
  | resume hst => exact (h.release rfl (hst.elim (· ▸ rfl) (· ▸ rfl)) rfl).log
  | giveUp hst => exact (h.release rfl hst rfl).log
  | dieIdle _ hb => exact h.die hb
  | dieBusy _ hb => exact (h.release (h.busyAsk _ _ hb).1 (h.busyAsk _ _ hb).2 rfl).die (setN_self ..)

theorem NInv.run_from {ls : List NLabel} {m n : Net} (hm : NInv m) (hr : run? m ls = some n) : NInv n := by
  induction ls generalizing m with
  | nil => cases hr; exact hm
  | cons l ls ih =>
    simp only [run?] at hr
    split at hr
    · cases hr
    · rename_i hs; exact ih (NInv.step hm (.of_step? hs)) hr

theorem NInv.run {ls : List NLabel} {n : Net} (hr : run? Net.init ls = some n) : NInv n :=
  NInv.run_from NInv.init hr

end Rsactor.Net
