/- C06 `kill_bound`: after kill() on an actor that had not begun to stop, at most one further
   handler starts (exactly the poll that had already passed the termination branch). -/
import Rsactor.Inv.StepFacts
import Rsactor.Monitor

namespace Rsactor.Model
open Rsactor.Monitor

def pcStopped : Pc → Bool
  | .stopping _ _ _ => true
  | .ended => true
  | _ => false

/-- handler starts the actor may still perform before it looks at the control channel again -/
def budget : Pc → Nat
  | .selMail => 1
  | _ => 0

/-- `m`: the fold over the history; `ts`: the control slot holds a kill signal -/
structure KBI (m : C06.KB) (pc : Pc) (ts : Bool) : Prop where
  stoppedIff : m.stopped = pcStopped pc
  unarmed : m.armed = false → m.starts = 0
  armed : m.armed = true → m.starts + budget pc ≤ 1 ∧ (ts = false → pcStopped pc = true)

def KBInv (s : Sys) : Prop := KBI (C06.kb s.ev) s.pc s.termSlot

theorem budget_le (pc : Pc) : budget pc ≤ 1 := by cases pc <;> simp [budget]

theorem budget_of_stopped {pc : Pc} (h : pcStopped pc = true) : budget pc = 0 := by
  cases pc <;> first | rfl | cases h

theorem KBI.starts_le {m : C06.KB} {pc : Pc} {ts : Bool} (h : KBI m pc ts) : m.starts ≤ 1 := by
  cases ha : m.armed
  · exact h.unarmed ha ▸ Nat.zero_le 1
  · exact Nat.le_trans (Nat.le_add_right ..) (h.armed ha).1

/-- the actor moves between states that have not begun to stop, into `selMail` only past an empty control slot -/
theorem KBI.move {m : C06.KB} {pc pc' : Pc} {ts : Bool} (h : KBI m pc ts) (hs : pcStopped pc = false)
    (hs' : pcStopped pc' = false) (hb : budget pc' = 0 ∨ ts = false) : KBI m pc' ts := by
  refine ⟨h.stoppedIff.trans (hs.trans hs'.symm), h.unarmed, fun ha => ?_⟩
  obtain ⟨a1, a2⟩ := h.armed ha
  -- armed and not stopping: the signal is in the control slot
  have ht : ts = false → False := fun ht => nomatch hs.symm.trans (a2 ht)
  exact ⟨by rw [hb.resolve_right ht]; omega, fun h => (ht h).elim⟩

theorem KBI.start {m : C06.KB} {pc : Pc} {ts : Bool} {mid : Nat} {k : Kind} (h : KBI m pc ts)
    (hpc : pc = .selMail) : KBI (C06.kbStep m (.handlerStart mid)) (.inHandler mid k) ts := by
  subst hpc
  obtain ⟨h1, h2, h3⟩ := h
  obtain ⟨st, ar, n⟩ := m
  cases ar with
  | false => exact ⟨h1, h2, nofun⟩
  | true => exact ⟨h1, nofun, fun _ => h3 rfl⟩

theorem KBI.stop {m : C06.KB} {pc pc' : Pc} {ts ts' : Bool} (h : KBI m pc ts) (hs' : pcStopped pc' = true) :
    KBI { m with stopped := true } pc' ts' := by
  refine ⟨hs'.symm, h.unarmed, fun ha => ⟨?_, fun _ => hs'⟩⟩
  show m.starts + _ ≤ 1
  have := (h.armed ha).1
  rw [budget_of_stopped hs']; omega

/-- kill(): arms the bound unless the actor has begun to stop; the receivers then exist (`hrx`: `Reachable.open_of_live`)
    and the signal lands in the control slot -/
theorem KBI.kill {m : C06.KB} {pc : Pc} {ts rx : Bool} {o a : Nat} {k : OpKind} {t : Option Nat} (h : KBI m pc ts)
    (hk : k = .kill) (hrx : pcStopped pc = false → rx = true) : KBI (C06.kbStep m (.issued o k t a)) pc (rx || ts) := by
  subst hk
  obtain ⟨h1, h2, h3⟩ := h
  obtain ⟨st, ar, n⟩ := m
  cases st with
  | true => exact ⟨h1, h2, fun ha => ⟨(h3 ha).1, fun _ => h1.symm⟩⟩
  | false =>
    rw [hrx h1.symm]
    refine ⟨h1, nofun, fun _ => ⟨?_, nofun⟩⟩
    cases ar with
    | false => show n + _ ≤ 1; rw [show n = 0 from h2 rfl, Nat.zero_add]; exact budget_le pc
    | true => exact (h3 rfl).1

theorem KBInv.of_log {s s' : Sys} {c : List Ev} (hev : s'.ev = s.ev ++ c)
    (h : KBI (c.foldl C06.kbStep (C06.kb s.ev)) s'.pc s'.termSlot) : KBInv s' := by
  rw [KBInv, hev, C06.kb, List.foldl_append]; exact h

theorem KBInv.complete {b : Sys} {oid : Nat} {r : Res} {why : Option Reason} (h : KBInv b) :
    KBInv (b.complete oid r why) := by
  cases why <;> exact .of_log (List.append_assoc ..) h

theorem KBInv.finish {b : Sys} {o : Outcome} {evs : List Ev} (h : KBInv b)
    (hk : evs.foldl C06.kbStep (C06.kb b.ev) = C06.kb b.ev) : KBInv (b.finish o evs) := by
  refine .of_log (c := evs ++ [.joined o]) (finish_ev_assoc ..) ?_
  rw [List.foldl_append, hk]; exact h.stop rfl

theorem kb_issue_nonkill (m : C06.KB) (o : Nat) (k : OpKind) (t : Option Nat) (a : Nat) (hk : k ≠ .kill) :
    C06.kbStep m (.issued o k t a) = m := by
  cases k <;> first | rfl | exact absurd rfl hk

theorem KBInv.issue {s : Sys} {op : OpSpec} (h : KBInv s) (hk : op.kind ≠ .kill) : KBInv (issueBase s op) := by
  refine .of_log rfl ?_
  show KBI (C06.kbStep _ _) _ _
  rw [kb_issue_nonkill _ _ _ _ _ hk]; exact h

theorem RunStep.kbInv {b s' : Sys} (h : RunStep b s') (hb : KBInv b) (hpc : b.pc = .selRun) : KBInv s' := by
  cases h with
  | wait => exact hb.move (hpc ▸ rfl) rfl (.inl rfl)
  | cont | disable => exact .of_log rfl (hb.move (hpc ▸ rfl) rfl (.inl rfl))
  | err => exact .of_log rfl (hb.stop rfl)
  | panic => exact hb.finish rfl

theorem Reachable.kbInv {s : Sys} (h : Reachable s) : KBInv s := by
  induction h with
  | init => exact ⟨rfl, fun _ => rfl, nofun⟩
  | step hr st ih =>
    cases st with
    | client hc =>
      cases hc with
      | kill _ _ _ hk =>
        exact .complete (.of_log rfl (ih.kill hk fun hn => hr.open_of_live fun he => by rw [he] at hn; cases hn))
      | sendClosed _ _ _ _ _ hi | stopClosed _ _ _ _ hi => exact .complete (ih.issue (opItem_ne_kill hi))
      | enqueue _ _ _ _ _ hi => exact ih.issue (opItem_ne_kill hi)
      | wakeGranted | strandAsk => exact ih
      | pushAsk => exact .of_log rfl ih
      | push => exact .complete (.of_log rfl ih)
      | _ => exact .complete ih
    | owner hh => cases hh <;> exact .of_log rfl ih
    | gate | advance => exact ih
    | actor ha =>
      cases ha with
      | startOk hpc | handlerTell _ hpc | handlerAsk _ hpc => exact .of_log rfl (ih.move (hpc ▸ rfl) rfl (.inl rfl))
      | mailEmpty hpc | runDisabled hpc | wake hpc => exact ih.move (hpc ▸ rfl) rfl (.inl rfl)
      | termPass hpc ht => exact ih.move (hpc ▸ rfl) rfl (.inr ht)
      | mailEnv _ _ _ hpc => exact .of_log rfl (ih.start hpc)
      | runAgain hpc _ _ hr => exact hr.kbInv ih hpc
      | runFresh hpc _ _ hr => exact hr.kbInv (.of_log rfl ih) hpc
      | startErr | startPanic | handlerPanic | stopDone => exact ih.finish rfl
      | _ => exact .of_log rfl (ih.stop rfl)

end Rsactor.Model
