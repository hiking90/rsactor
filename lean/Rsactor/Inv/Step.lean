/-
  `step?` as a relation, split by whose step it is.

  A client task (a call being issued, its sender polled, its timer, its reply wait), the owner of a handle,
  the environment (gate, clock) and the actor's own task touch different fields of `Sys` and log different
  events.  An invariant about one party's fields is untouched by the other parties' steps (the frame lemmas
  below) and walks only the constructors of the party it is about.

  `Step.of_step?` is the only place where `step?` is unfolded wholesale.  The constructors keep the guards as the
  facts proofs use, so `Step` is slightly coarser than `step?`: any waiter (handle) with the id in the label stands in
  for the one `find?` returns - the same one in reachable states, where ids are distinct (`IdsInv.wNodup`, `HInv`) -,
  `replyLost` covers two branches of `recvReply`, `probe` strong and weak handles.  Everything proved of every `Step`
  holds of every `step?`, not conversely.
-/
import Rsactor.Inv.Tactics

namespace Rsactor.Model

/-- a call is issued; its sender future, its timer or its reply wait is polled -/
inductive ClientStep (s : Sys) : Label → Sys → Prop
  /-- `step?` sets `termSlot` under `if s.rxOpen`; with `||` the post-state is one record update and its fields
      project by `rfl` -/
  | kill (h : Nat) (op : OpSpec) : (h, true) ∈ s.handles → op.kind = .kill →
      ClientStep s (.issue h op)
        ({ issueBase s op with termSlot := s.rxOpen || s.termSlot }.complete s.nextOid .ok none)
  | sendClosed (h : Nat) (op : OpSpec) (mid : Nat) (k : Kind) : (h, true) ∈ s.handles →
      opItem s.nextOid op.kind = some (.env mid k) → s.rxOpen = false →
      ClientStep s (.issue h op) ((issueBase s op).complete s.nextOid .send (some .actorStopped))
  | stopClosed (h : Nat) (op : OpSpec) (o : Nat) : (h, true) ∈ s.handles →
      opItem s.nextOid op.kind = some (.stop o) → s.rxOpen = false →
      ClientStep s (.issue h op) ((issueBase s op).complete s.nextOid .ok none)
  /-- the sender holds a permit at once exactly if a slot is free and nobody is queued ahead; `reserve()` has then
      returned too, so `g` is both `granted` and `acq` -/
  | enqueue (h : Nat) (op : OpSpec) (it : Item) (g : Bool) : (h, true) ∈ s.handles →
      opItem s.nextOid op.kind = some it → s.rxOpen = true →
      g = decide (s.mbox.length + grantedCount s.waiters < s.cap ∧ s.waiters.all (·.granted) = true) →
      ClientStep s (.issue h op)
        { issueBase s op with waiters := s.waiters ++ [⟨s.nextOid, it, g, g⟩],
                              client := setF s.client s.nextOid .waiting }
  | wakeClosed (w : Waiter) (mid : Nat) (k : Kind) : w ∈ s.waiters → w.acq = false → s.rxOpen = false →
      w.item = .env mid k →
      ClientStep s (.grantWake w.oid)
        ({ s with waiters := s.waiters.erase w }.complete w.oid .send (some .actorStopped))
  | wakeClosedStop (w : Waiter) (o : Nat) : w ∈ s.waiters → w.acq = false → s.rxOpen = false →
      w.item = .stop o →
      ClientStep s (.grantWake w.oid) ({ s with waiters := s.waiters.erase w }.complete w.oid .ok none)
  | wakeGranted (w : Waiter) : w ∈ s.waiters → w.acq = false → s.rxOpen = true → w.granted = true →
      ClientStep s (.grantWake w.oid)
        { s with waiters := s.waiters.map (fun x => if x = w then { x with acq := true } else x) }
  /-- a tell or a stop marker enters the mailbox: the call returns -/
  | push (w : Waiter) : w ∈ s.waiters → w.acq = true → s.rxOpen = true → (∀ m, w.item ≠ .env m .ask) →
      ClientStep s (.push w.oid)
        ({ s with waiters := s.waiters.erase w, mbox := s.mbox ++ [w.item], accepted := s.accepted ++ [w.item],
                  ev := s.ev ++ [Ev.accepted w.item.oid s.accepted.length] }.complete w.item.oid .ok none)
  | pushAsk (w : Waiter) (mid : Nat) : w ∈ s.waiters → w.acq = true → s.rxOpen = true → w.item = .env mid .ask →
      ClientStep s (.push w.oid)
        { s with waiters := s.waiters.erase w, mbox := s.mbox ++ [.env mid .ask],
                 accepted := s.accepted ++ [.env mid .ask], ev := s.ev ++ [Ev.accepted mid s.accepted.length],
                 client := setF s.client mid .awaiting, reply := setF s.reply mid .pending }
  /-- pushed after the receivers were dropped -/
  | strand (w : Waiter) : w ∈ s.waiters → w.acq = true → s.rxOpen = false → (∀ m, w.item ≠ .env m .ask) →
      ClientStep s (.push w.oid)
        ({ s with waiters := s.waiters.erase w, stranded := s.stranded ++ [w.item] }.complete w.item.oid .ok none)
  | strandAsk (w : Waiter) (mid : Nat) : w ∈ s.waiters → w.acq = true → s.rxOpen = false → w.item = .env mid .ask →
      ClientStep s (.push w.oid)
        { s with waiters := s.waiters.erase w, stranded := s.stranded ++ [.env mid .ask],
                 client := setF s.client mid .awaiting, reply := setF s.reply mid .pending }
  | timeoutSend (w : Waiter) (d : Nat) : w ∈ s.waiters → w.granted = false → s.rxOpen = true →
      s.deadline w.oid = some d → d ≤ s.clock → s.client w.oid = .waiting →
      ClientStep s (.timeoutFire w.oid)
        ({ s with waiters := s.waiters.erase w }.complete w.oid .timeout (some .timeout))
  | timeoutAsk (oid d : Nat) : s.deadline oid = some d → d ≤ s.clock → s.client oid = .awaiting →
      s.reply oid ≠ .sent → s.reply oid ≠ .dropped → ¬ (s.rxOpen = false ∧ Extracted.ask_wait_watches_closed = true) →
      ClientStep s (.timeoutFire oid) (s.complete oid .timeout (some .timeout))
  | reply (oid : Nat) : s.client oid = .awaiting → s.reply oid = .sent →
      ClientStep s (.recvReply oid) (s.complete oid (.reply oid) none)
  | replyLost (oid : Nat) : s.client oid = .awaiting →
      s.reply oid = .dropped ∨ (s.reply oid ≠ .sent ∧ s.rxOpen = false ∧ Extracted.ask_wait_watches_closed = true) →
      ClientStep s (.recvReply oid) (s.complete oid .receive (some .replyDropped))

/-- the owner of a handle clones, drops, converts or probes it -/
inductive OwnerStep (s : Sys) : Label → Sys → Prop
  | clone (h : Nat) (st : Bool) : (h, st) ∈ s.handles →
      OwnerStep s (.clone h) { s with handles := s.handles ++ [(s.nextHid, st)], nextHid := s.nextHid + 1,
                                       ev := s.ev ++ [.handleNew s.nextHid st] }
  | drop (p : Nat × Bool) : p ∈ s.handles →
      OwnerStep s (.dropH p.1) { s with handles := s.handles.erase p, ev := s.ev ++ [.handleDrop p.1] }
  | downgrade (h : Nat) : (h, true) ∈ s.handles →
      OwnerStep s (.downgrade h) { s with handles := s.handles ++ [(s.nextHid, false)], nextHid := s.nextHid + 1,
                                           ev := s.ev ++ [.handleNew s.nextHid false] }
  | upgrade (h : Nat) : (h, false) ∈ s.handles → s.strongCount > 0 →
      OwnerStep s (.upgrade h) { s with handles := s.handles ++ [(s.nextHid, true)], nextHid := s.nextHid + 1,
                                         ev := s.ev ++ [.handleNew s.nextHid true] }
  | upgradeFailed (h : Nat) : (h, false) ∈ s.handles → ¬ s.strongCount > 0 →
      OwnerStep s (.upgrade h) { s with ev := s.ev ++ [.upgradeFailed h] }
  | probe (h : Nat) (st : Bool) : (h, st) ∈ s.handles →
      OwnerStep s (.probeAlive h)
        { s with ev := s.ev ++ [.probeAlive h (if st then s.rxOpen else decide (s.strongCount > 0))] }

/-- one poll of the live on_run future, from the state `b` in which the select holds it -/
inductive RunStep (b : Sys) : Sys → Prop
  | wait : b.gatePermits = 0 → RunStep b { b with pc := .parked }
  | cont : b.gatePermits ≠ 0 → runOutAt b.script (b.runIdx - 1) = .cont →
      RunStep b { b with gatePermits := b.gatePermits - 1, runLive := false, hooks := b.hooks ++ [Hook.run (b.runIdx - 1)],
                         pc := .selTerm, ev := b.ev ++ [.runEnd (b.runIdx - 1) .cont] }
  | disable : b.gatePermits ≠ 0 → runOutAt b.script (b.runIdx - 1) = .disable →
      RunStep b { b with gatePermits := b.gatePermits - 1, runLive := false, hooks := b.hooks ++ [Hook.run (b.runIdx - 1)],
                         pc := .selTerm, idleEnabled := false, ev := b.ev ++ [.runEnd (b.runIdx - 1) .disable] }
  | err : b.gatePermits ≠ 0 → runOutAt b.script (b.runIdx - 1) = .err →
      RunStep b { b with gatePermits := b.gatePermits - 1, runLive := false, hooks := b.hooks ++ [Hook.run (b.runIdx - 1)],
                         pc := .stopping false true false,
                         ev := b.ev ++ [.runEnd (b.runIdx - 1) .err, .stopStart false] }
  | panic : b.gatePermits ≠ 0 → runOutAt b.script (b.runIdx - 1) = .panic →
      RunStep b ({ b with gatePermits := b.gatePermits - 1, runLive := false,
                          hooks := b.hooks ++ [Hook.run (b.runIdx - 1)] }.finish none [.runEnd (b.runIdx - 1) .panic])

/-- what the JoinHandle yields when on_stop, called with `killed`, returns `out` (`log`: the hooks that ran) -/
def stopOutcome (out : SOut) (runErr killed : Bool) (log : List Hook) : Outcome :=
  match out, runErr with
  | .ok, false => some (.Completed log killed)
  | .ok, true => some (.Failed (some log) .run .OnRun false)
  | .err, false => some (.Failed (some log) .stop .OnStop killed)
  | .err, true => some (.Failed (some log) .run .OnRunThenOnStop false)
  | .panic, _ => none

/-- the actor's task is polled -/
inductive ActorStep (s : Sys) : Label → Sys → Prop
  | startOk : s.pc = .starting → 0 < s.gatePermits → s.script.startOut = .ok →
      ActorStep s .startDone { s with gatePermits := s.gatePermits - 1, pc := .selTerm, taskRef := false,
                                      hooks := [.start], ev := s.ev ++ [.startEnd .ok] }
  | startErr : s.pc = .starting → 0 < s.gatePermits → s.script.startOut = .err →
      ActorStep s .startDone ({ s with gatePermits := s.gatePermits - 1 }.finish
        (some (.Failed none .start .OnStart false)) [.startEnd .err])
  | startPanic : s.pc = .starting → 0 < s.gatePermits → s.script.startOut = .panic →
      ActorStep s .startDone ({ s with gatePermits := s.gatePermits - 1 }.finish none [.startEnd .panic])
  | termKill : s.pc = .selTerm → s.termSlot = true →
      ActorStep s .pollTerm { s with termSlot := false, pc := .stopping true false false, runLive := false,
                                     ev := s.ev ++ [.termConsumed, .stopStart true] }
  | termClosed : s.pc = .selTerm → s.termSlot = false → s.strongCount = 0 →
      ActorStep s .pollTerm { s with pc := .stopping false false false, runLive := false,
                                     ev := s.ev ++ [.stopStart false] }
  | termPass : s.pc = .selTerm → s.termSlot = false → s.strongCount ≠ 0 →
      ActorStep s .pollTerm { s with pc := .selMail }
  | mailClosedKill : s.pc = .selMail → s.mbox = [] → s.strongCount = 0 → s.termSlot = true →
      ActorStep s .pollMail { s with acceptedAtMail := s.accepted.length, termSlot := false,
                                     pc := .stopping true false false, runLive := false,
                                     ev := s.ev ++ [.termConsumed, .stopStart true] }
  | mailClosed : s.pc = .selMail → s.mbox = [] → s.strongCount = 0 → s.termSlot = false →
      ActorStep s .pollMail { s with acceptedAtMail := s.accepted.length, pc := .stopping false false false,
                                     runLive := false, ev := s.ev ++ [.stopStart false] }
  | mailEmpty : s.pc = .selMail → s.mbox = [] → s.strongCount ≠ 0 →
      ActorStep s .pollMail { s with acceptedAtMail := s.accepted.length, pc := .selRun }
  | mailEnv (mid : Nat) (k : Kind) (rest : List Item) : s.pc = .selMail → s.mbox = .env mid k :: rest →
      ActorStep s .pollMail { s with acceptedAtMail := s.accepted.length, mbox := rest, taken := s.taken + 1,
                                     waiters := grantFirst s.waiters, pc := .inHandler mid k, runLive := false,
                                     hooks := s.hooks ++ [.handler mid], ev := s.ev ++ [.handlerStart mid] }
  | mailStopKill (o : Nat) (rest : List Item) : s.pc = .selMail → s.mbox = .stop o :: rest → s.termSlot = true →
      ActorStep s .pollMail { s with acceptedAtMail := s.accepted.length, mbox := rest, taken := s.taken + 1,
                                     waiters := grantFirst s.waiters, termSlot := false,
                                     pc := .stopping true false true, runLive := false,
                                     ev := s.ev ++ [.termConsumed, .stopStart true] }
  | mailStop (o : Nat) (rest : List Item) : s.pc = .selMail → s.mbox = .stop o :: rest → s.termSlot = false →
      ActorStep s .pollMail { s with acceptedAtMail := s.accepted.length, mbox := rest, taken := s.taken + 1,
                                     waiters := grantFirst s.waiters, pc := .stopping false false true,
                                     runLive := false, ev := s.ev ++ [.stopStart false] }
  | runDisabled : s.pc = .selRun → s.idleEnabled = false → ActorStep s .pollRun { s with pc := .parked }
  /-- the on_run future of an earlier poll is still pending: it is polled again -/
  | runAgain : s.pc = .selRun → s.idleEnabled = true → s.runLive = true → RunStep s s' → ActorStep s .pollRun s'
  /-- the first poll of a fresh future -/
  | runFresh : s.pc = .selRun → s.idleEnabled = true → s.runLive = false →
      RunStep { s with runLive := true, runIdx := s.runIdx + 1, ev := s.ev ++ [.runPoll s.runIdx] } s' →
      ActorStep s .pollRun s'
  | wake : s.pc = .parked → ActorStep s .wake { s with pc := .selTerm }
  | handlerTell (mid : Nat) : s.pc = .inHandler mid .tell → 0 < s.gatePermits → (s.spec mid).hout = .ok →
      ActorStep s .handlerDone { s with gatePermits := s.gatePermits - 1, msgCount := s.msgCount + 1, pc := .selTerm,
                                        ev := s.ev ++ [.handlerEnd mid .ok, .tellResult mid] }
  | handlerAsk (mid : Nat) : s.pc = .inHandler mid .ask → 0 < s.gatePermits → (s.spec mid).hout = .ok →
      ActorStep s .handlerDone { s with gatePermits := s.gatePermits - 1, msgCount := s.msgCount + 1, pc := .selTerm,
                                        reply := setF s.reply mid .sent,
                                        ev := s.ev ++ [.handlerEnd mid .ok, .replySent mid] }
  | handlerPanic (mid : Nat) (k : Kind) : s.pc = .inHandler mid k → 0 < s.gatePermits → (s.spec mid).hout = .panic →
      ActorStep s .handlerDone
        ({ s with gatePermits := s.gatePermits - 1, msgCount := s.msgCount + 1,
                  reply := match k with | .tell => s.reply | .ask => setF s.reply mid .dropped }.finish
          none [.handlerEnd mid .panic])
  | stopDone (killed runErr marker : Bool) (out : SOut) : s.pc = .stopping killed runErr marker →
      0 < s.gatePermits → s.script.stopOut = out →
      ActorStep s .stopDone
        ({ s with gatePermits := s.gatePermits - 1, hooks := s.hooks ++ [Hook.stop killed] }.finish
          (stopOutcome out runErr killed (s.hooks ++ [Hook.stop killed])) [.stopEnd out])

inductive Step (s : Sys) : Label → Sys → Prop
  | client {l s'} : ClientStep s l s' → Step s l s'
  | owner {l s'} : OwnerStep s l s' → Step s l s'
  | actor {l s'} : ActorStep s l s' → Step s l s'
  | gate : Step s .gate { s with gatePermits := s.gatePermits + 1 }
  | advance (d : Nat) : Step s (.advance d) { s with clock := s.clock + d }

theorem RunStep.of_runStep {b s' : Sys} (h : b.runStep = some s') : RunStep b s' := by
  simp only [Sys.runStep] at h
  rcases ite_eq_some h with ⟨hg, h⟩ | ⟨hg, h⟩
  · cases h; exact .wait hg
  · split at h <;> cases h
    · exact .cont hg ‹_›
    · exact .disable hg ‹_›
    · exact .err hg ‹_›
    · exact .panic hg ‹_›

theorem Step.of_step? {s s' : Sys} {l : Label} (hs : step? s l = some s') : Step s l s' := by
  cases l with
  | issue h op =>
    obtain ⟨hh, hs⟩ := Option.ite_none_right_eq_some.mp hs
    split at hs
    · cases hs
      have := ClientStep.kill h op hh (opItem_none ‹_›)
      split
      · rw [show s.rxOpen = true from ‹_›] at this; exact .client this
      · rw [show s.rxOpen = false from Bool.eq_false_iff.mpr ‹_›] at this; exact .client this
    · rename_i it hit
      rcases ite_eq_some hs with ⟨hc, hs⟩ | ⟨ho, hs⟩
      · have hc := Bool.eq_false_iff.mpr hc
        cases hs; cases it
        · exact .client (.sendClosed h op _ _ hh hit hc)
        · exact .client (.stopClosed h op _ hh hit hc)
      · have ho := Decidable.of_not_not ho
        rcases ite_eq_some hs with ⟨hg, hs⟩ | ⟨hg, hs⟩ <;> cases hs
        · exact .client (.enqueue h op _ true hh hit ho (decide_eq_true hg).symm)
        · exact .client (.enqueue h op _ false hh hit ho (decide_eq_false hg).symm)
  | grantWake oid =>
    simp only [step?] at hs
    split at hs
    · rename_i w _
      obtain ⟨hw, rfl, ha⟩ := mem_of_find? ‹_›
      have ha := Bool.eq_false_iff.mpr ha
      rcases ite_eq_some hs with ⟨hc, hs⟩ | ⟨ho, hs⟩
      · have hc := Bool.eq_false_iff.mpr hc
        cases hs
        cases hi : w.item
        · exact .client (.wakeClosed _ _ _ hw ha hc hi)
        · exact .client (.wakeClosedStop _ _ hw ha hc hi)
      · obtain ⟨hg, hs⟩ := Option.ite_none_right_eq_some.mp hs
        cases hs
        exact .client (.wakeGranted _ hw ha (Decidable.of_not_not ho) hg)
    · cases hs
  | push oid =>
    simp only [step?] at hs
    split at hs
    · rename_i w _
      obtain ⟨hw, rfl, ha⟩ := mem_of_find? ‹_›
      rcases ite_eq_some hs with ⟨ho, hs⟩ | ⟨hc, hs⟩ <;> cases hs
      · by_cases hi : ∃ m, w.item = .env m .ask
        · obtain ⟨m, hi⟩ := hi
          rw [hi]; exact .client (.pushAsk _ _ hw ha ho hi)
        · have hi := not_exists.mp hi
          rw [afterPush_of_ne_ask _ hi]; exact .client (.push _ hw ha ho hi)
      · have hc := Bool.eq_false_iff.mpr hc
        by_cases hi : ∃ m, w.item = .env m .ask
        · obtain ⟨m, hi⟩ := hi
          rw [hi]; exact .client (.strandAsk _ _ hw ha hc hi)
        · have hi := not_exists.mp hi
          rw [afterStrand_of_ne_ask _ hi]; exact .client (.strand _ hw ha hc hi)
    · cases hs
  | timeoutFire oid =>
    simp only [step?] at hs
    split at hs
    · obtain ⟨hd, hs⟩ := Option.ite_none_left_eq_some.mp hs
      have hd := Nat.le_of_not_lt hd
      split at hs
      · split at hs
        · obtain ⟨hw, rfl⟩ := mem_of_find? ‹_›
          obtain ⟨hg, hs⟩ := Option.ite_none_left_eq_some.mp hs
          cases hs
          exact .client (.timeoutSend _ _ hw (Bool.eq_false_iff.mpr fun h => hg (.inl h))
            (Decidable.of_not_not fun h => hg (.inr h)) ‹_› hd ‹_›)
        · cases hs
      · obtain ⟨hg, hs⟩ := Option.ite_none_left_eq_some.mp hs
        cases hs
        exact .client (.timeoutAsk _ _ ‹_› hd ‹_› (fun h => hg (.inl h)) (fun h => hg (.inr (.inl h)))
          (fun h => hg (.inr (.inr ⟨Bool.eq_false_iff.mp h.1, h.2⟩))))
      · cases hs
    · cases hs
  | recvReply oid =>
    simp only [step?] at hs
    split at hs
    · split at hs
      · cases hs; exact .client (.reply _ ‹_› ‹_›)
      · cases hs; exact .client (.replyLost _ ‹_› (.inl ‹_›))
      · obtain ⟨hc, hs⟩ := Option.ite_none_right_eq_some.mp hs
        cases hs
        rename_i hns _
        exact .client (.replyLost _ ‹_› (.inr ⟨hns, Bool.eq_false_iff.mpr hc.1, hc.2⟩))
    · cases hs
  | clone h =>
    simp only [step?] at hs
    split at hs <;> cases hs
    obtain ⟨hm, rfl⟩ := mem_of_find? ‹_›
    exact .owner (.clone _ _ hm)
  | dropH h =>
    simp only [step?] at hs
    split at hs <;> cases hs
    obtain ⟨hm, rfl⟩ := mem_of_find? ‹_›
    exact .owner (.drop _ hm)
  | downgrade h =>
    obtain ⟨hh, hs⟩ := Option.ite_none_right_eq_some.mp hs
    cases hs
    exact .owner (.downgrade _ hh)
  | upgrade h =>
    obtain ⟨hh, hs⟩ := Option.ite_none_right_eq_some.mp hs
    rcases ite_eq_some hs with ⟨h0, hs⟩ | ⟨h0, hs⟩ <;> cases hs
    · exact .owner (.upgrade _ hh h0)
    · exact .owner (.upgradeFailed _ hh h0)
  | probeAlive h =>
    simp only [step?] at hs
    split at hs <;> cases hs <;>
      (obtain ⟨hm, rfl⟩ := mem_of_find? ‹_›
       exact .owner (.probe _ _ hm))
  | gate => cases hs; exact .gate
  | advance d => cases hs; exact .advance d
  | startDone =>
    obtain ⟨⟨hpc, hg⟩, hs⟩ := Option.ite_none_right_eq_some.mp hs
    split at hs <;> cases hs
    · exact .actor (.startOk hpc hg ‹_›)
    · exact .actor (.startErr hpc hg ‹_›)
    · exact .actor (.startPanic hpc hg ‹_›)
  | pollTerm =>
    obtain ⟨hpc, hs⟩ := Option.ite_none_right_eq_some.mp hs
    rcases ite_eq_some hs with ⟨ht, hs⟩ | ⟨ht, hs⟩
    · cases hs; exact .actor (.termKill hpc ht)
    · have ht := Bool.eq_false_iff.mpr ht
      rcases ite_eq_some hs with ⟨h0, hs⟩ | ⟨h0, hs⟩ <;> cases hs
      · exact .actor (.termClosed hpc ht h0)
      · exact .actor (.termPass hpc ht h0)
  | pollMail =>
    obtain ⟨hpc, hs⟩ := Option.ite_none_right_eq_some.mp hs
    split at hs
    · rcases ite_eq_some hs with ⟨h0, hs⟩ | ⟨h0, hs⟩
      · rcases ite_eq_some hs with ⟨ht, hs⟩ | ⟨ht, hs⟩ <;> cases hs
        · exact .actor (.mailClosedKill hpc ‹_› h0 ht)
        · exact .actor (.mailClosed hpc ‹_› h0 (Bool.eq_false_iff.mpr ht))
      · cases hs; exact .actor (.mailEmpty hpc ‹_› h0)
    · cases hs; exact .actor (.mailEnv _ _ _ hpc ‹_›)
    · rcases ite_eq_some hs with ⟨ht, hs⟩ | ⟨ht, hs⟩ <;> cases hs
      · exact .actor (.mailStopKill _ _ hpc ‹_› ht)
      · exact .actor (.mailStop _ _ hpc ‹_› (Bool.eq_false_iff.mpr ht))
  | pollRun =>
    obtain ⟨hpc, hs⟩ := Option.ite_none_right_eq_some.mp hs
    rcases ite_eq_some hs with ⟨hi, hs⟩ | ⟨hi, hs⟩
    · cases hs; exact .actor (.runDisabled hpc (Bool.eq_false_iff.mpr hi))
    · have hi := Decidable.of_not_not hi
      rcases ite_eq_some hs with ⟨hl, hs⟩ | ⟨hl, hs⟩
      · exact .actor (.runAgain hpc hi hl (.of_runStep hs))
      · exact .actor (.runFresh hpc hi (Bool.eq_false_iff.mpr hl) (.of_runStep hs))
  | wake =>
    obtain ⟨hpc, hs⟩ := Option.ite_none_right_eq_some.mp hs
    cases hs
    exact .actor (.wake hpc)
  | handlerDone =>
    simp only [step?] at hs
    split at hs
    · rename_i mid k hpc
      obtain ⟨hg, hs⟩ := Option.ite_none_right_eq_some.mp hs
      split at hs
      · split at hs <;> cases hs
        · exact .actor (.handlerTell _ hpc hg ‹_›)
        · exact .actor (.handlerAsk _ hpc hg ‹_›)
      · cases hs
        cases k <;> exact .actor (.handlerPanic _ _ hpc hg ‹_›)
    · cases hs
  | stopDone =>
    simp only [step?] at hs
    split at hs
    · rename_i killed runErr marker hpc
      obtain ⟨hg, hs⟩ := Option.ite_none_right_eq_some.mp hs
      -- the five-way match of `step?` is `stopOutcome`
      have st := ActorStep.stopDone killed runErr marker _ hpc hg rfl
      suffices he : _ = s' from .actor (he ▸ st)
      revert hs
      cases s.script.stopOut <;> cases runErr <;> exact Option.some.inj
    · cases hs

theorem run_inv {P : Sys → Prop} (hstep : ∀ {s s' l}, P s → Step s l s' → P s') {s s' : Sys} {ls : List Label}
    (h : P s) (hr : run? s ls = some s') : P s' := by
  induction ls generalizing s with
  | nil => cases hr; exact h
  | cons l ls ih =>
    simp only [run?] at hr
    split at hr
    · cases hr
    · exact ih (hstep h (.of_step? ‹_›)) hr

/-! ### who logs which event, and what the others leave alone -/

inductive Party | client | owner | actor
  deriving DecidableEq

def Ev.party : Ev → Party
  | .issued .. | .accepted .. | .ret .. | .dead .. => .client
  | .handleNew .. | .handleDrop .. | .upgradeFailed .. | .probeAlive .. => .owner
  | _ => .actor

/-- `s'` extends the history of `s`, and only by events of parties that satisfy `p` -/
def LogsOnly (p : Party → Prop) (s s' : Sys) : Prop := ∃ c, s'.ev = s.ev ++ c ∧ ∀ e ∈ c, p e.party

theorem LogsOnly.of_eq {p : Party → Prop} {s s' : Sys} (h : s'.ev = s.ev) : LogsOnly p s s' :=
  ⟨[], h.trans (List.append_nil _).symm, fun _ h => (List.not_mem_nil h).elim⟩

theorem LogsOnly.trans {p : Party → Prop} {s s' s'' : Sys} (h : LogsOnly p s s') (h' : LogsOnly p s' s'') :
    LogsOnly p s s'' := by
  obtain ⟨c, hc, hp⟩ := h
  obtain ⟨c', hc', hp'⟩ := h'
  exact ⟨c ++ c', by rw [hc', hc, List.append_assoc], fun e he => (List.mem_append.mp he).elim (hp e) (hp' e)⟩

/-- `hf` is asked at the current value of the fold only: a caller whose step function is partial (an automaton) rewrites
    that value by its induction hypothesis -/
theorem LogsOnly.foldl_eq {β : Type} {p : Party → Prop} {s s' : Sys} (h : LogsOnly p s s') {f : β → Ev → β} {b : β}
    (hf : ∀ e, p e.party → f (s.ev.foldl f b) e = s.ev.foldl f b) : s'.ev.foldl f b = s.ev.foldl f b := by
  obtain ⟨c, hc, hp⟩ := h
  rw [hc, List.foldl_append]
  exact foldl_fixed fun e he => hf e (hp e he)

theorem LogsOnly.mem {q : Party} {s s' : Sys} (h : LogsOnly (· ≠ q) s s') {e : Ev} (he : e.party = q) (hm : e ∈ s'.ev) :
    e ∈ s.ev := by
  obtain ⟨c, hc, hp⟩ := h
  exact (List.mem_append.mp (hc ▸ hm)).elim id fun hm => absurd he (hp e hm)

/-- the fields that only the actor's task writes, and its events -/
structure ActorFrame (s s' : Sys) : Prop where
  pc : s'.pc = s.pc
  hooks : s'.hooks = s.hooks
  result : s'.result = s.result
  runLive : s'.runLive = s.runLive
  runIdx : s'.runIdx = s.runIdx
  idleEnabled : s'.idleEnabled = s.idleEnabled
  taskRef : s'.taskRef = s.taskRef
  taken : s'.taken = s.taken
  acceptedAtMail : s'.acceptedAtMail = s.acceptedAtMail
  msgCount : s'.msgCount = s.msgCount
  rxOpen : s'.rxOpen = s.rxOpen
  ev : LogsOnly (· ≠ .actor) s s'

/-- the fields that only client tasks write, and their events -/
structure ClientFrame (s s' : Sys) : Prop where
  nextOid : s'.nextOid = s.nextOid
  spec : s'.spec = s.spec
  deadline : s'.deadline = s.deadline
  inflight : s'.inflight = s.inflight
  client : s'.client = s.client
  dead : s'.dead = s.dead
  accepted : s'.accepted = s.accepted
  stranded : s'.stranded = s.stranded
  ev : LogsOnly (· ≠ .client) s s'

structure OwnerFrame (s s' : Sys) : Prop where
  handles : s'.handles = s.handles
  nextHid : s'.nextHid = s.nextHid
  ev : LogsOnly (· ≠ .owner) s s'

theorem logs_of_all {q : Party} {s s' : Sys} (c : List Ev) (hev : s'.ev = s.ev ++ c)
    (hc : c.all (fun e => decide (e.party = q)) = true) : LogsOnly (· = q) s s' :=
  ⟨c, hev, fun e he => of_decide_eq_true (List.all_eq_true.mp hc e he)⟩

theorem LogsOnly.ne {q q' : Party} {s s' : Sys} (h : LogsOnly (· = q) s s') (hq : q ≠ q' := by decide) :
    LogsOnly (· ≠ q') s s' :=
  let ⟨c, hc, hp⟩ := h; ⟨c, hc, fun e he => hp e he ▸ hq⟩

theorem ClientStep.logs {s s' : Sys} {l : Label} (h : ClientStep s l s') : LogsOnly (· = .client) s s' := by
  cases h with
  | wakeGranted | strandAsk => exact .of_eq rfl
  | enqueue | pushAsk => exact logs_of_all [_] rfl rfl
  | kill | stopClosed | sendClosed | push =>
    exact logs_of_all _ (by simp only [complete_ev_none, complete_ev_some, issueBase, List.append_assoc]; rfl) (by rfl)
  | wakeClosedStop | strand | reply => exact logs_of_all [_] (complete_ev_none ..) rfl
  | wakeClosed | timeoutSend | timeoutAsk | replyLost => exact logs_of_all [_, _] (complete_ev_some ..) rfl

theorem OwnerStep.logs {s s' : Sys} {l : Label} (h : OwnerStep s l s') : LogsOnly (· = .owner) s s' := by
  cases h <;> exact logs_of_all [_] rfl rfl

theorem RunStep.logs {b s' : Sys} (h : RunStep b s') : LogsOnly (· = .actor) b s' := by
  cases h with
  | wait => exact .of_eq rfl
  | panic => exact logs_of_all [_, _] (List.append_assoc ..) rfl
  | _ => exact logs_of_all _ rfl rfl

theorem ActorStep.logs {s s' : Sys} {l : Label} (h : ActorStep s l s') : LogsOnly (· = .actor) s s' := by
  cases h with
  | runAgain _ _ _ hr => exact hr.logs
  | runFresh _ _ _ hr => exact .trans (logs_of_all [_] rfl rfl) hr.logs
  | startErr | startPanic | handlerPanic | stopDone => exact logs_of_all [_, _] (List.append_assoc ..) rfl
  | termPass | mailEmpty | runDisabled | wake => exact .of_eq rfl
  | _ => exact logs_of_all _ rfl rfl

/-! Which fields a party's steps write: everything else is as before.  The frames, and that nobody writes `cap`,
   are read off these equations. -/

theorem ClientStep.writes {s s' : Sys} {l : Label} (h : ClientStep s l s') :
    s' = { s with waiters := s'.waiters, mbox := s'.mbox, reply := s'.reply, termSlot := s'.termSlot,
                  client := s'.client, nextOid := s'.nextOid, spec := s'.spec, deadline := s'.deadline,
                  inflight := s'.inflight, dead := s'.dead, accepted := s'.accepted, stranded := s'.stranded,
                  ev := s'.ev } := by
  cases h <;> rfl

theorem OwnerStep.writes {s s' : Sys} {l : Label} (h : OwnerStep s l s') :
    s' = { s with handles := s'.handles, nextHid := s'.nextHid, ev := s'.ev } := by
  cases h <;> rfl

theorem RunStep.writes {b s' : Sys} (h : RunStep b s') :
    s' = { b with pc := s'.pc, hooks := s'.hooks, result := s'.result, runLive := s'.runLive,
                  idleEnabled := s'.idleEnabled, taskRef := s'.taskRef, rxOpen := s'.rxOpen,
                  gatePermits := s'.gatePermits, mbox := s'.mbox, reply := s'.reply, ev := s'.ev } := by
  cases h <;> rfl

theorem ActorStep.writes {s s' : Sys} {l : Label} (h : ActorStep s l s') :
    s' = { s with pc := s'.pc, hooks := s'.hooks, result := s'.result, runLive := s'.runLive, runIdx := s'.runIdx,
                  idleEnabled := s'.idleEnabled, taskRef := s'.taskRef, taken := s'.taken,
                  acceptedAtMail := s'.acceptedAtMail, msgCount := s'.msgCount, rxOpen := s'.rxOpen,
                  gatePermits := s'.gatePermits, mbox := s'.mbox, waiters := s'.waiters, reply := s'.reply,
                  termSlot := s'.termSlot, ev := s'.ev } := by
  cases h with
  | runAgain _ _ _ hr | runFresh _ _ _ hr => cases hr <;> rfl
  | _ => rfl

theorem ClientStep.actorFrame {s s' : Sys} {l : Label} (h : ClientStep s l s') : ActorFrame s s' := by
  rw [h.writes]; exact ⟨rfl, rfl, rfl, rfl, rfl, rfl, rfl, rfl, rfl, rfl, rfl, h.logs.ne⟩

theorem ClientStep.ownerFrame {s s' : Sys} {l : Label} (h : ClientStep s l s') : OwnerFrame s s' := by
  rw [h.writes]; exact ⟨rfl, rfl, h.logs.ne⟩

theorem OwnerStep.actorFrame {s s' : Sys} {l : Label} (h : OwnerStep s l s') : ActorFrame s s' := by
  rw [h.writes]; exact ⟨rfl, rfl, rfl, rfl, rfl, rfl, rfl, rfl, rfl, rfl, rfl, h.logs.ne⟩

theorem OwnerStep.clientFrame {s s' : Sys} {l : Label} (h : OwnerStep s l s') : ClientFrame s s' := by
  rw [h.writes]; exact ⟨rfl, rfl, rfl, rfl, rfl, rfl, rfl, rfl, h.logs.ne⟩

theorem ActorStep.clientFrame {s s' : Sys} {l : Label} (h : ActorStep s l s') : ClientFrame s s' := by
  rw [h.writes]; exact ⟨rfl, rfl, rfl, rfl, rfl, rfl, rfl, rfl, h.logs.ne⟩

theorem ActorStep.ownerFrame {s s' : Sys} {l : Label} (h : ActorStep s l s') : OwnerFrame s s' := by
  rw [h.writes]; exact ⟨rfl, rfl, h.logs.ne⟩

theorem ActorStep.pc_ne_ended {s s' : Sys} {l : Label} (h : ActorStep s l s') : s.pc ≠ .ended := by
  cases h <;> simp [*]

theorem ActorStep.finish_or {s s' : Sys} {l : Label} (h : ActorStep s l s') :
    (∃ b o evs, s' = Sys.finish b o evs) ∨ (s'.rxOpen = s.rxOpen ∧ s'.pc ≠ .ended) := by
  cases h with
  | startErr | startPanic | handlerPanic | stopDone => exact .inl ⟨_, _, _, rfl⟩
  | runAgain _ _ _ hr | runFresh _ _ _ hr =>
    cases hr with
    | panic => exact .inl ⟨_, _, _, rfl⟩
    | _ => exact .inr ⟨rfl, Pc.noConfusion⟩
  | _ => exact .inr ⟨rfl, Pc.noConfusion⟩

theorem Step.actor_or_frame {s s' : Sys} {l : Label} : Step s l s' → ActorStep s l s' ∨ ActorFrame s s'
  | .actor h => .inl h
  | .client h | .owner h => .inr h.actorFrame
  | .gate | .advance _ => .inr ⟨rfl, rfl, rfl, rfl, rfl, rfl, rfl, rfl, rfl, rfl, rfl, .of_eq rfl⟩

theorem Step.client_or_frame {s s' : Sys} {l : Label} : Step s l s' → ClientStep s l s' ∨ ClientFrame s s'
  | .client h => .inl h
  | .actor h | .owner h => .inr h.clientFrame
  | .gate | .advance _ => .inr ⟨rfl, rfl, rfl, rfl, rfl, rfl, rfl, rfl, .of_eq rfl⟩

theorem Step.owner_or_frame {s s' : Sys} {l : Label} : Step s l s' → OwnerStep s l s' ∨ OwnerFrame s s'
  | .owner h => .inl h
  | .actor h | .client h => .inr h.ownerFrame
  | .gate | .advance _ => .inr ⟨rfl, rfl, .of_eq rfl⟩

/-- whose step a label is (`none`: the environment's) -/
def Label.party : Label → Option Party
  | .issue .. | .grantWake _ | .push _ | .timeoutFire _ | .recvReply _ => some .client
  | .clone _ | .dropH _ | .downgrade _ | .upgrade _ | .probeAlive _ => some .owner
  | .gate | .advance _ => none
  | _ => some .actor

theorem ClientStep.party {s s' : Sys} {l : Label} (h : ClientStep s l s') : l.party = some .client := by cases h <;> rfl
theorem OwnerStep.party {s s' : Sys} {l : Label} (h : OwnerStep s l s') : l.party = some .owner := by cases h <;> rfl
theorem ActorStep.party {s s' : Sys} {l : Label} (h : ActorStep s l s') : l.party = some .actor := by cases h <;> rfl

theorem Step.toClient {s s' : Sys} {l : Label} (st : Step s l s') (hl : l.party = some .client) : ClientStep s l s' := by
  cases st with
  | client h => exact h
  | owner h | actor h => cases h.party.symm.trans hl
  | gate | advance => cases hl

theorem Step.toOwner {s s' : Sys} {l : Label} (st : Step s l s') (hl : l.party = some .owner) : OwnerStep s l s' := by
  cases st with
  | owner h => exact h
  | client h | actor h => cases h.party.symm.trans hl
  | gate | advance => cases hl

inductive Reachable : Sys → Prop
  | init (cap : Nat) (sc : Script) : Reachable (init cap sc)
  | step {s s' : Sys} {l : Label} : Reachable s → Step s l s' → Reachable s'

theorem Reachable.run {s s' : Sys} {ls : List Label} (h : Reachable s) (hr : run? s ls = some s') : Reachable s' :=
  run_inv .step h hr

theorem Reachable.of_run {cap : Nat} {sc : Script} {ls : List Label} {s : Sys}
    (hr : run? (Model.init cap sc) ls = some s) : Reachable s := (Reachable.init cap sc).run hr

end Rsactor.Model
