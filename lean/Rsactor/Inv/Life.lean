/- C04: the hook events of every run are accepted by the lifecycle automaton, and the automaton's
   state is a function of the actor's program counter.
   C20: the handlers left are the handlers entered, except the one the program counter is in. -/
import Rsactor.Inv.Fifo

namespace Rsactor.Model
open Rsactor.Monitor

def phOf : Pc → C04.Ph
  | .starting => .init
  | .selTerm => .running
  | .selMail => .running
  | .selRun => .running
  | .parked => .running
  | .inHandler m _ => .inHandler m
  | .stopping _ _ _ => .stopping
  | .ended => .joined

def phRun (st : Option C04.Ph) (chunk : List Ev) : Option C04.Ph :=
  chunk.foldl (fun (st : Option C04.Ph) e => st.bind (fun ph => C04.step ph e)) st

def phFold (ev : List Ev) : Option C04.Ph :=
  ev.foldl (fun (st : Option C04.Ph) e => st.bind (fun ph => C04.step ph e)) (some .init)

theorem phFold_append (ev chunk : List Ev) : phFold (ev ++ chunk) = phRun (phFold ev) chunk :=
  List.foldl_append ..

theorem _root_.Rsactor.Monitor.C04.step_of_not_actor {e : Ev} (h : e.party ≠ .actor) {ph : C04.Ph} : C04.step ph e = some ph := by
  cases e <;> first | rfl | exact absurd rfl h

theorem phFold_of_log {s s' : Sys} {c : List Ev} {pc : Pc} (ih : phFold s.ev = some (phOf s.pc)) (hpc : s.pc = pc)
    (hev : s'.ev = s.ev ++ c) (h : phRun (some (phOf pc)) c = some (phOf s'.pc)) : phFold s'.ev = some (phOf s'.pc) := by
  rw [hev, phFold_append, ih, hpc, h]

/-- the one step whose guard compares message ids -/
theorem phRun_handlerEnd (m : Nat) (k : Kind) (o : HOut) (rest : List Ev) :
    phRun (some (phOf (.inHandler m k))) (.handlerEnd m o :: rest) =
      phRun (some (match o with | .ok => .running | .panic => .dead)) rest := by
  cases o <;> exact congrArg (phRun · rest) (if_pos rfl)

theorem RunStep.phFold_eq {b s' : Sys} (h : RunStep b s') (ih : phFold b.ev = some (phOf b.pc)) (hpc : b.pc = .selRun) :
    phFold s'.ev = some (phOf s'.pc) := by
  cases h with
  | wait => exact phFold_of_log ih hpc (List.append_nil _).symm rfl
  | panic => exact phFold_of_log ih hpc (finish_ev_assoc ..) rfl
  | _ => exact phFold_of_log ih hpc rfl rfl

theorem Reachable.phFold_eq {s : Sys} (h : Reachable s) : phFold s.ev = some (phOf s.pc) := by
  induction h with
  | init => rfl
  | step _ st ih =>
    rcases st.actor_or_frame with ha | hf
    · cases ha with
      | runAgain hpc _ _ hr => exact hr.phFold_eq ih hpc
      | runFresh hpc _ _ hr => exact hr.phFold_eq (by rw [phFold_append, ih, hpc]; rfl) hpc
      | termPass hpc | mailEmpty hpc | runDisabled hpc | wake hpc => exact phFold_of_log ih hpc (List.append_nil _).symm rfl
      | startErr hpc | startPanic hpc => exact phFold_of_log ih hpc (finish_ev_assoc ..) rfl
      | stopDone _ _ _ out hpc => cases out <;> exact phFold_of_log ih hpc (finish_ev_assoc ..) rfl
      | handlerTell m hpc | handlerAsk m hpc =>
        exact phFold_of_log ih hpc rfl ((phRun_handlerEnd ..).trans rfl)
      | handlerPanic m _ hpc => exact phFold_of_log ih hpc (finish_ev_assoc ..) ((phRun_handlerEnd ..).trans rfl)
      | startOk hpc | termKill hpc | termClosed hpc | mailClosedKill hpc | mailClosed hpc | mailEnv _ _ _ hpc
      | mailStopKill _ _ hpc | mailStop _ _ hpc => exact phFold_of_log ih hpc rfl rfl
    · rw [hf.pc, ← ih]
      -- refold the history into `phFold s.ev`, whose value `ih` gives
      exact hf.ev.foldl_eq fun e he => by rw [← Model.phFold, ih]; exact C04.step_of_not_actor he

/-! ### the handlers left are the handlers entered, in order, but for the one still running -/

def endedMids (ev : List Ev) : List Nat := ev.filterMap fun | .handlerEnd m _ => some m | _ => none

def handling : Pc → List Nat
  | .inHandler m _ => [m]
  | _ => []

theorem handlers_of_log {ev c : List Ev} {pc p pc' : Pc} (h : startedMids ev = endedMids ev ++ handling pc) (hp : pc = p)
    (hc : handling p ++ startedMids c = endedMids c ++ handling pc') :
    startedMids (ev ++ c) = endedMids (ev ++ c) ++ handling pc' := by
  subst hp
  simp only [startedMids, endedMids, List.filterMap_append] at *
  rw [h, List.append_assoc, hc, List.append_assoc]

theorem handlers_finish {b : Sys} {o : Outcome} {evs : List Ev} {pc p : Pc}
    (h : startedMids b.ev = endedMids b.ev ++ handling pc) (hp : pc = p)
    (hc : handling p ++ startedMids evs = endedMids evs ++ handling .ended) :
    startedMids (b.finish o evs).ev = endedMids (b.finish o evs).ev ++ handling (b.finish o evs).pc :=
  handlers_of_log (handlers_of_log h hp hc) rfl rfl

theorem endedMids_of_not_actor {c : List Ev} (hp : ∀ e ∈ c, e.party ≠ .actor) : endedMids c = [] :=
  List.filterMap_eq_nil_iff.mpr fun e he => by
    have := hp e he
    cases e <;> first | rfl | exact absurd rfl this

theorem RunStep.handlers {b s' : Sys} (h : RunStep b s') (hb : startedMids b.ev = endedMids b.ev ++ handling .selRun) :
    startedMids s'.ev = endedMids s'.ev ++ handling s'.pc := by
  cases h with
  | wait => exact hb
  | cont | disable | err => exact handlers_of_log hb rfl rfl
  | panic => exact handlers_finish hb rfl rfl

theorem Reachable.handlers {s : Sys} (h : Reachable s) : startedMids s.ev = endedMids s.ev ++ handling s.pc := by
  induction h with
  | init => rfl
  | step _ st ih =>
    rcases st.actor_or_frame with ha | hf
    · cases ha with
      | termPass hpc | mailEmpty hpc | runDisabled hpc | wake hpc => rw [hpc] at ih; exact ih
      | runAgain hpc _ _ hr => rw [hpc] at ih; exact hr.handlers ih
      | runFresh hpc _ _ hr => exact hr.handlers (handlers_of_log ih hpc rfl)
      | startErr hpc | startPanic hpc | handlerPanic _ _ hpc | stopDone _ _ _ _ hpc => exact handlers_finish ih hpc rfl
      | startOk hpc | termKill hpc | termClosed hpc | mailClosedKill hpc | mailClosed hpc | mailEnv _ _ _ hpc
      | mailStopKill _ _ hpc | mailStop _ _ hpc | handlerTell _ hpc | handlerAsk _ hpc => exact handlers_of_log ih hpc rfl
    · obtain ⟨c, hc, hp⟩ := hf.ev
      rw [hf.pc, hc]
      exact handlers_of_log ih rfl (by
        rw [startedMids_of_not_actor hp, endedMids_of_not_actor hp]; exact List.append_nil _)

end Rsactor.Model
