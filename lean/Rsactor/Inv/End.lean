/- C03: reply integrity (`ReplyInv`); where the envelope of an unanswered ask is (`PendingWhere`); the operations that
   wait for a slot are those of the queued senders (`Queued`); once the receivers are gone every operation in flight
   completes by its own steps (`recvReply_closed`, `grantWake_closed`, `push_closed`). -/
import Rsactor.Inv.Ids
import Rsactor.Inv.Fifo
import Rsactor.Inv.StepFacts

namespace Rsactor.Model
open Rsactor.Monitor

def riFold (ev : List Ev) : List Nat × Bool := ev.foldl C03.riStep ([], true)

/-- `st`: the fold of `C03.riStep` over the history (requests whose handler has returned, ok so far): every reply
    received so far was the reply to that request, and every reply marked as sent was sent by a handler that returned -/
def RI (st : List Nat × Bool) (reply : Nat → RSt) : Prop := st.2 = true ∧ ∀ m, reply m = .sent → m ∈ st.1

def ReplyInv (s : Sys) : Prop := RI (riFold s.ev) s.reply

theorem RI.mono {st : List Nat × Bool} {r r' : Nat → RSt} (h : RI st r) (hre : ∀ m, r' m = .sent → r m = .sent) :
    RI st r' :=
  ⟨h.1, fun m hm => h.2 m (hre m hm)⟩

theorem RI.handlerEnd {st : List Nat × Bool} {r r' : Nat → RSt} (h : RI st r) (mid : Nat)
    (hre : ∀ m, r' m = .sent → m = mid ∨ r m = .sent) : RI (C03.riStep st (.handlerEnd mid .ok)) r' :=
  ⟨h.1, fun m hm => (hre m hm).elim (· ▸ List.mem_cons_self ..) fun hm => List.mem_cons_of_mem _ (h.2 m hm)⟩

theorem RI.reply {st : List Nat × Bool} {r : Nat → RSt} (h : RI st r) {oid a : Nat} (hs : r oid = .sent) :
    RI (C03.riStep st (.ret oid (.reply oid) a)) r :=
  ⟨by simp [C03.riStep, h.1, h.2 oid hs], h.2⟩

theorem ReplyInv.of_log {s s' : Sys} {c : List Ev} (hev : s'.ev = s.ev ++ c)
    (h : RI (c.foldl C03.riStep (riFold s.ev)) s'.reply) : ReplyInv s' := by
  rw [ReplyInv, hev, riFold, List.foldl_append]; exact h

theorem ReplyInv.complete {b : Sys} {oid : Nat} {r : Res} {why : Option Reason} (h : ReplyInv b)
    (hr : ∀ m, r ≠ .reply m) : ReplyInv (b.complete oid r why) := by
  have : C03.riStep (riFold b.ev) (.ret oid r b.clock) = riFold b.ev := by cases r <;> first | rfl | exact absurd rfl (hr _)
  cases why <;>
    exact .of_log (List.append_assoc ..) (by show RI (C03.riStep (riFold b.ev) (.ret ..)) _; rw [this]; exact h)

theorem ReplyInv.finish {b : Sys} {o : Outcome} {evs : List Ev} (h : ReplyInv b)
    (hk : evs.foldl C03.riStep (riFold b.ev) = riFold b.ev) : ReplyInv (b.finish o evs) :=
  .of_log (c := evs ++ [.joined o]) (finish_ev_assoc ..) (by
    rw [List.foldl_append, hk]; exact RI.mono h fun _ => dropReplies_sent)

theorem RunStep.replyInv {b s' : Sys} (h : RunStep b s') (hb : ReplyInv b) : ReplyInv s' := by
  cases h with
  | wait => exact hb
  | panic => exact hb.finish rfl
  | _ => exact .of_log rfl hb

theorem Reachable.replyInv {s : Sys} (h : Reachable s) : ReplyInv s := by
  induction h with
  | init => exact ⟨rfl, nofun⟩
  | @step s _ _ _ st ih =>
    cases st with
    | client hc =>
      cases hc with
      | reply oid _ hs => exact .of_log (complete_ev_none ..) (ih.reply (a := s.clock) hs)
      | kill | sendClosed | stopClosed | push => exact ReplyInv.complete (.of_log rfl ih) nofun
      | enqueue => exact .of_log rfl ih
      | pushAsk => exact .of_log rfl (ih.mono fun _ hm => (setF_eq_of_ne hm nofun).2)
      | strandAsk => exact ih.mono fun _ hm => (setF_eq_of_ne hm nofun).2
      | wakeGranted => exact ih
      | _ => exact ReplyInv.complete ih nofun
    | actor ha =>
      cases ha with
      | handlerTell mid => exact .of_log rfl (ih.handlerEnd mid fun _ => .inr)
      | handlerAsk mid => exact .of_log rfl (ih.handlerEnd mid fun _ => setF_eq_or)
      | runAgain _ _ _ hr => exact hr.replyInv ih
      | runFresh _ _ _ hr => exact hr.replyInv (.of_log rfl ih)
      | startErr | startPanic | stopDone => exact ReplyInv.finish ih rfl
      | handlerPanic _ k =>
        refine ReplyInv.finish (RI.mono ih fun m hm => ?_) rfl
        cases k
        · exact hm
        · exact (setF_eq_of_ne hm nofun).2
      | termPass | mailEmpty | runDisabled | wake => exact ih
      | _ => exact .of_log rfl ih
    | owner hh => cases hh <;> exact .of_log rfl ih
    | gate | advance => exact ih

/-! ### where an ask that awaits its reply is -/

/-- the envelope of an unanswered ask is queued, being handled, or lies in the closed channel -/
def PendingWhere (s : Sys) : Prop :=
  ∀ m, s.reply m = .pending → Item.env m .ask ∈ s.mbox ∨ s.pc = .inHandler m .ask ∨ Item.env m .ask ∈ s.stranded

/-- the loop moves on from a state in which it is not handling an ask -/
theorem PendingWhere.idle {s s' : Sys} (h : PendingWhere s) (hpc : ∀ m, s.pc ≠ .inHandler m .ask)
    (hre : s'.reply = s.reply) (hmb : s'.mbox = s.mbox) (hst : s'.stranded = s.stranded) : PendingWhere s' :=
  fun m hm => by
    rw [hmb, hst]; rw [hre] at hm
    exact (h m hm).imp_right (.imp_left fun h => absurd h (hpc m))

/-- the loop takes the head of the mailbox; an ask taken is now being handled -/
theorem PendingWhere.take {s s' : Sys} {it : Item} {rest : List Item} (h : PendingWhere s) (hpc : s.pc = .selMail)
    (hmb : s.mbox = it :: rest) (hmb' : s'.mbox = rest) (hre : s'.reply = s.reply) (hst : s'.stranded = s.stranded)
    (hit : ∀ m, it = .env m .ask → s'.pc = .inHandler m .ask) : PendingWhere s' := by
  intro m hm
  rw [hmb', hst]; rw [hre] at hm
  rcases h m hm with h | h | h
  · rw [hmb] at h
    cases h with
    | head => exact .inr (.inl (hit m rfl))
    | tail _ h => exact .inl h
  · rw [hpc] at h; cases h
  · exact .inr (.inr h)

theorem PendingWhere.finish {b : Sys} {o : Outcome} {evs : List Ev} (h : PendingWhere b)
    (hpc : ∀ m, b.reply m = .pending → b.pc ≠ .inHandler m .ask) : PendingWhere (b.finish o evs) := by
  intro m hm
  simp only [finish_reply, dropReplies] at hm
  split at hm
  · cases hm
  · rcases h m hm with h | h | h
    · contradiction
    · exact absurd h (hpc m hm)
    · exact .inr (.inr h)

theorem RunStep.pendingWhere {b s' : Sys} (h : RunStep b s') (hb : PendingWhere b) (hpc : b.pc = .selRun) :
    PendingWhere s' := by
  cases h with
  | panic => exact PendingWhere.finish hb fun _ _ => by rw [hpc]; nofun
  | _ => exact hb.idle (by rw [hpc]; nofun) rfl rfl rfl

theorem Reachable.pendingWhere {s : Sys} (h : Reachable s) : PendingWhere s := by
  induction h with
  | init => intro m hm; cases hm
  | step _ st ih =>
    cases st with
    | client hc =>
      cases hc with
      | pushAsk =>
        exact fun m hm => (setF_eq_or hm).elim (· ▸ .inl (List.mem_append_right _ (List.mem_singleton_self _)))
          fun hm => (ih m hm).imp_left (List.mem_append_left _)
      | strandAsk =>
        exact fun m hm => (setF_eq_or hm).elim (· ▸ .inr (.inr (List.mem_append_right _ (List.mem_singleton_self _))))
          fun hm => (ih m hm).imp_right (.imp_right (List.mem_append_left _))
      | push => exact fun m hm => (ih m hm).imp_left (List.mem_append_left _)
      | strand => exact fun m hm => (ih m hm).imp_right (.imp_right (List.mem_append_left _))
      | _ => exact ih
    | actor ha =>
      cases ha with
      | runAgain hpc _ _ hr | runFresh hpc _ _ hr => exact hr.pendingWhere ih hpc
      | mailEnv _ _ _ hpc hmb => exact ih.take hpc hmb rfl rfl rfl fun _ h => by cases h; rfl
      | mailStopKill _ _ hpc hmb | mailStop _ _ hpc hmb => exact ih.take hpc hmb rfl rfl rfl nofun
      | handlerAsk mid hpc =>
        -- the reply is sent: the ask being handled is no longer pending
        intro m hm
        obtain ⟨hmm, hm⟩ := setF_eq_of_ne hm nofun
        exact (ih m hm).imp_right
          (.imp_left fun h => by rw [hpc] at h; cases h; exact absurd rfl hmm)
      | handlerPanic mid k hpc =>
        -- if it was an ask its reply sender is dropped first
        cases k with
        | tell => exact PendingWhere.finish ih fun _ _ => by rw [hpc]; nofun
        | ask =>
          refine PendingWhere.finish (fun m hm => ?_) fun m hm => ?_
          all_goals obtain ⟨hmm, hm⟩ := setF_eq_of_ne hm nofun
          · exact ih m hm
          · rw [hpc]; intro h; cases h; exact hmm rfl
      | startErr hpc | startPanic hpc | stopDone _ _ _ _ hpc =>
        exact PendingWhere.finish ih fun _ _ => by rw [hpc]; nofun
      | startOk hpc | termKill hpc | termClosed hpc | termPass hpc | mailClosedKill hpc | mailClosed hpc | mailEmpty hpc
      | runDisabled hpc | wake hpc | handlerTell _ hpc => exact ih.idle (by rw [hpc]; nofun) rfl rfl rfl
    | owner hh => cases hh <;> exact ih
    | gate | advance => exact ih

/-! ### the operations that wait for a slot are those of the queued senders -/

def Queued (ws : List Waiter) (c : Nat → CSt) : Prop := ∀ o, c o = .waiting ↔ o ∈ (wkeys ws).map (·.1)

theorem Queued.set {ws : List Waiter} {c : Nat → CSt} {k : Nat} {v : CSt} (h : Queued ws c) (hk : c k ≠ .waiting)
    (hv : v ≠ .waiting) : Queued ws (setF c k v) := by
  intro o
  by_cases ho : o = k
  · subst ho; rw [setF_self]; exact ⟨fun he => absurd he hv, fun hm => absurd ((h o).mpr hm) hk⟩
  · rw [setF_ne ho]; exact h o

theorem Queued.erase {ws : List Waiter} {c : Nat → CSt} {w : Waiter} {k : Nat} {v : CSt} (h : Queued ws c)
    (hnd : ((wkeys ws).map (·.1)).Nodup) (hw : w ∈ ws) (hk : k = w.oid) (hv : v ≠ .waiting) :
    Queued (ws.erase w) (setF c k v) := by
  subst hk
  intro o
  by_cases ho : o = w.oid
  · subst ho; rw [setF_self]
    exact ⟨fun he => absurd he hv, fun hm => let ⟨_, hp, he⟩ := List.mem_map.mp hm; absurd he (erase_key_ne hnd hw hp)⟩
  · rw [setF_ne ho, mem_keys_erase ho]; exact h o

theorem Queued.enqueue {ws : List Waiter} {c : Nat → CSt} {k : Nat} {it : Item} {g a : Bool} (h : Queued ws c) :
    Queued (ws ++ [⟨k, it, g, a⟩]) (setF c k .waiting) := by
  intro o
  rw [wkeys_append, List.map_append, List.mem_append]
  by_cases ho : o = k
  · subst ho; rw [setF_self]; exact ⟨fun _ => .inr (List.mem_singleton_self _), fun _ => rfl⟩
  · rw [setF_ne ho, h o]; exact ⟨.inl, fun hm => hm.resolve_right fun hm => ho (List.mem_singleton.mp hm)⟩

theorem Reachable.queued {s : Sys} (h : Reachable s) : Queued s.waiters s.client := by
  induction h with
  | init => exact fun _ => ⟨nofun, nofun⟩
  | @step s _ _ hr st ih =>
    have hi := hr.idsInv
    cases st with
    | client hc =>
      cases hc with
      | kill | sendClosed | stopClosed => exact ih.set (by rw [hi.clientNone _ (Nat.le_refl _)]; nofun) nofun
      | enqueue => exact ih.enqueue
      | wakeClosed _ _ _ hw | wakeClosedStop _ _ hw | timeoutSend _ _ hw =>
        exact ih.erase hi.wNodup hw rfl nofun
      | wakeGranted w => exact fun o => wkeys_map_acq s.waiters w ▸ ih o
      | push _ hw | strand _ hw => exact ih.erase hi.wNodup hw (hi.item_oid hw rfl) nofun
      | pushAsk _ _ hw _ _ hit | strandAsk _ _ hw _ _ hit => exact ih.erase hi.wNodup hw (hi.item_oid hw hit) nofun
      -- an operation that awaits its reply has left the queue
      | timeoutAsk _ _ _ _ hc | reply _ hc | replyLost _ hc => exact ih.set (by rw [hc]; nofun) nofun
    | actor ha => exact fun o => ha.clientFrame.client ▸ ha.wkeys ▸ ih o
    | owner hh => cases hh <;> exact ih
    | gate | advance => exact ih

/-! ### once the receivers are dropped, every operation still in flight completes by its own steps -/

/-- the reply wait also watches the mailbox being closed -/
theorem recvReply_closed {s : Sys} {oid : Nat} (hc : s.rxOpen = false) (ha : s.client oid = .awaiting) :
    ∃ s', step? s (.recvReply oid) = some s' ∧ ∃ r, s'.client oid = .done r := by
  rw [step?, ha]
  have hw : ¬ s.rxOpen = true ∧ Extracted.ask_wait_watches_closed = true := ⟨by simp [hc], rfl⟩
  cases s.reply oid with
  | sent | dropped => exact ⟨_, rfl, _, setF_self ..⟩
  | _ => exact ⟨_, if_pos hw, _, setF_self ..⟩

/-- a sender that is still queued is polled: it sees the closed mailbox -/
theorem grantWake_closed {s : Sys} {w : Waiter} (hc : s.rxOpen = false) (hw : w ∈ s.waiters) (ha : w.acq = false) :
    ∃ s', step? s (.grantWake w.oid) = some s' ∧ ∃ r, s'.client w.oid = .done r := by
  obtain ⟨w', hf⟩ := find?_of_mem (p := fun x => x.oid = w.oid ∧ ¬ x.acq = true) hw ⟨rfl, ha ▸ nofun⟩
  rw [step?, hf]
  refine ⟨_, if_pos (by simp [hc]), ?_⟩
  cases w'.item <;> exact ⟨_, setF_self ..⟩

/-- a sender that holds its permit pushes into the closed channel: a tell or a stop() returns, an ask goes on to wait
    for its reply -/
theorem push_closed {s : Sys} {w : Waiter} (hi : IdsInv s) (hc : s.rxOpen = false) (hw : w ∈ s.waiters)
    (ha : w.acq = true) :
    ∃ s', step? s (.push w.oid) = some s' ∧ s'.rxOpen = false ∧
      ((∃ r, s'.client w.oid = .done r) ∨ s'.client w.oid = .awaiting) := by
  obtain ⟨w', hf⟩ := find?_of_mem (p := fun x => x.oid = w.oid ∧ x.acq = true) hw ⟨rfl, ha⟩
  obtain ⟨hw', hq⟩ := mem_of_find? hf
  have ho : w'.item.oid = w.oid := (hi.waiter hw').1.trans hq.1
  rw [step?, hf]
  refine ⟨_, if_neg (by simp [hc]), (afterStrand_rxOpen ..).trans hc, ?_⟩
  rw [← ho]
  rcases w'.item with ⟨mid, _ | _⟩ | o
  · exact .inl ⟨_, setF_self ..⟩
  · exact .inr (setF_self ..)
  · exact .inl ⟨_, setF_self ..⟩

end Rsactor.Model
