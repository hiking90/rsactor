/- C13: dead letters and failing returns are paired, for every run. -/
import Rsactor.Inv.Step
import Rsactor.Monitor

namespace Rsactor.Model
open Rsactor.Monitor

def DeadInv (s : Sys) : Prop :=
  s.ev.foldl C13.step (some none) = some none ∧
  s.dead = C13.deadLetters s.ev ∧
  C13.deadLetters s.ev = C13.failures s.ev

theorem _root_.Rsactor.Monitor.C13.deadLetters_append (a b : List Ev) : C13.deadLetters (a ++ b) = C13.deadLetters a ++ C13.deadLetters b :=
  List.filterMap_append

theorem _root_.Rsactor.Monitor.C13.failures_append (a b : List Ev) : C13.failures (a ++ b) = C13.failures a ++ C13.failures b :=
  List.filterMap_append

theorem DeadInv.log {s s' : Sys} (h : DeadInv s) {c : List Ev} (hev : s'.ev = s.ev ++ c) (hd : s'.dead = s.dead)
    (hn : ∀ e ∈ c, match e with
      | .dead .. | .ret .. => False
      | _ => True) : DeadInv s' := by
  obtain ⟨h1, h2, h3⟩ := h
  have hst : c.foldl C13.step (some none) = some none :=
    foldl_fixed fun e he => by cases e <;> first | rfl | exact (hn _ he).elim
  have hdl : C13.deadLetters c = [] :=
    List.filterMap_eq_nil_iff.mpr fun e he => by cases e <;> first | rfl | exact (hn _ he).elim
  have hfl : C13.failures c = [] :=
    List.filterMap_eq_nil_iff.mpr fun e he => by cases e <;> first | rfl | exact (hn _ he).elim
  rw [DeadInv, hev, hd, List.foldl_append, C13.deadLetters_append, C13.failures_append, h1, hdl, hfl,
    List.append_nil, List.append_nil]
  exact ⟨hst, h2, h3⟩

/-- the dead letter recorded with a return is the one the monitor expects of it -/
theorem DeadInv.complete {b : Sys} {oid : Nat} {r : Res} (h : DeadInv b) :
    DeadInv (b.complete oid r (C13.reasonOf r)) := by
  obtain ⟨h1, h2, h3⟩ := h
  cases hw : C13.reasonOf r <;>
    rw [DeadInv, complete_ev, List.append_assoc, complete_dead, List.foldl_append, C13.deadLetters_append,
      C13.failures_append, h1, ← h3, ← h2] <;>
    simp [C13.step, C13.deadLetters, C13.failures, hw]

theorem DeadInv.issue {s : Sys} {op : OpSpec} (h : DeadInv s) : DeadInv (issueBase s op) :=
  h.log (c := [_]) rfl rfl (List.forall_mem_singleton.mpr trivial)

theorem Reachable.deadInv {s : Sys} (h : Reachable s) : DeadInv s := by
  induction h with
  | init => exact ⟨rfl, rfl, rfl⟩
  | step _ st ih =>
    rcases st.client_or_frame with hc | hf
    · -- every return is logged by `complete`, with `C13.reasonOf` of its result as the reason
      cases hc with
      | kill | sendClosed | stopClosed => exact DeadInv.complete ih.issue
      | enqueue => exact ih.issue
      | wakeGranted | strandAsk => exact ih
      | pushAsk => exact ih.log (c := [_]) rfl rfl (List.forall_mem_singleton.mpr trivial)
      | push => exact DeadInv.complete (ih.log (c := [_]) rfl rfl (List.forall_mem_singleton.mpr trivial))
      | _ => exact DeadInv.complete ih
    · obtain ⟨c, hc, hp⟩ := hf.ev
      exact ih.log hc hf.dead fun e he => by have := hp e he; cases e <;> first | trivial | exact absurd rfl this

end Rsactor.Model
