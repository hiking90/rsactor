/- C19: in every run a handler that returns is followed at once by exactly one of tellResult / replySent
   (which one is decided by the kind held in the program counter), and these events occur nowhere else. -/
import Rsactor.Inv.Step
import Rsactor.Monitor

namespace Rsactor.Model
open Rsactor.Monitor

def trPhOf : Pc → C19.Ph
  | .inHandler m _ => .inH m
  | _ => .idle

def trRun (st : Option C19.Ph) (chunk : List Ev) : Option C19.Ph :=
  chunk.foldl (fun (st : Option C19.Ph) e => st.bind (fun ph => C19.step ph e)) st

def trFold (ev : List Ev) : Option C19.Ph := trRun (some .idle) ev

theorem trFold_append (ev chunk : List Ev) : trFold (ev ++ chunk) = trRun (trFold ev) chunk :=
  List.foldl_append ..

/-- between steps the automaton never waits for the result event (`ended`): other parties' events keep its phase -/
theorem _root_.Rsactor.Monitor.C19.step_of_not_actor {e : Ev} (h : e.party ≠ .actor) {pc : Pc} : C19.step (trPhOf pc) e = some (trPhOf pc) := by
  cases e <;> first | (cases pc <;> rfl) | exact absurd rfl h

theorem trFold_of_log {s s' : Sys} {c : List Ev} {pc : Pc} (ih : trFold s.ev = some (trPhOf s.pc)) (hpc : s.pc = pc)
    (hev : s'.ev = s.ev ++ c) (h : trRun (some (trPhOf pc)) c = some (trPhOf s'.pc)) :
    trFold s'.ev = some (trPhOf s'.pc) := by
  rw [hev, trFold_append, ih, hpc, h]

/-- the steps whose guards compare message ids: the handler returns and its result event follows at once -/
theorem trRun_handlerOk {m : Nat} {k : Kind} {e : Ev} (he : e = .tellResult m ∨ e = .replySent m) :
    trRun (some (trPhOf (.inHandler m k))) [.handlerEnd m .ok, e] = some .idle := by
  rcases he with rfl | rfl <;>
    exact (congrArg (trRun · [_]) (if_pos rfl)).trans (if_pos rfl)

theorem trRun_handlerPanic (m : Nat) (k : Kind) (rest : List Ev) :
    trRun (some (trPhOf (.inHandler m k))) (.handlerEnd m .panic :: rest) = trRun (some .idle) rest :=
  congrArg (trRun · rest) (if_pos rfl)

theorem RunStep.trFold_eq {b s' : Sys} (h : RunStep b s') (ih : trFold b.ev = some (trPhOf b.pc)) (hpc : b.pc = .selRun) :
    trFold s'.ev = some (trPhOf s'.pc) := by
  cases h with
  | wait => exact trFold_of_log ih hpc (List.append_nil _).symm rfl
  | panic => exact trFold_of_log ih hpc (finish_ev_assoc ..) rfl
  | _ => exact trFold_of_log ih hpc rfl rfl

theorem Reachable.trFold_eq {s : Sys} (h : Reachable s) : trFold s.ev = some (trPhOf s.pc) := by
  induction h with
  | init => rfl
  | step _ st ih =>
    rcases st.actor_or_frame with ha | hf
    · cases ha with
      | runAgain hpc _ _ hr => exact hr.trFold_eq ih hpc
      | runFresh hpc _ _ hr => exact hr.trFold_eq (by rw [trFold_append, ih, hpc]; rfl) hpc
      | termPass hpc | mailEmpty hpc | runDisabled hpc | wake hpc => exact trFold_of_log ih hpc (List.append_nil _).symm rfl
      | startErr hpc | startPanic hpc | stopDone _ _ _ _ hpc => exact trFold_of_log ih hpc (finish_ev_assoc ..) rfl
      | handlerTell _ hpc => exact trFold_of_log ih hpc rfl (trRun_handlerOk (.inl rfl))
      | handlerAsk _ hpc => exact trFold_of_log ih hpc rfl (trRun_handlerOk (.inr rfl))
      | handlerPanic m _ hpc => exact trFold_of_log ih hpc (finish_ev_assoc ..) ((trRun_handlerPanic ..).trans rfl)
      | startOk hpc | termKill hpc | termClosed hpc | mailClosedKill hpc | mailClosed hpc | mailEnv _ _ _ hpc
      | mailStopKill _ _ hpc | mailStop _ _ hpc => exact trFold_of_log ih hpc rfl rfl
    · rw [hf.pc, ← ih]
      exact hf.ev.foldl_eq fun e he => by rw [← trRun, ← Model.trFold, ih]; exact C19.step_of_not_actor he

end Rsactor.Model
