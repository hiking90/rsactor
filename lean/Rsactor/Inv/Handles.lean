/- C11: the handle table of the model and the handle events of the trace tell the same story, and an
   upgrade fails only while the script holds no strong handle. -/
import Rsactor.Inv.Step
import Rsactor.Monitor

namespace Rsactor.Model
open Rsactor.Monitor

def strongIds (hs : List (Nat × Bool)) : List Nat := (hs.filter (·.2)).map (·.1)

/-- the monitor's fold (strong handle ids, ok so far; it starts from `[0]`, the handle `spawn` returns) equals the strong
    part of the handle table; handle ids are distinct and below `nextHid` -/
def HInv (s : Sys) : Prop :=
  s.ev.foldl C11.upStep ([0], true) = (strongIds s.handles, true) ∧ (s.handles.map (·.1)).Nodup ∧
    ∀ p ∈ s.handles, p.1 < s.nextHid

theorem strongIds_append (a b : List (Nat × Bool)) : strongIds (a ++ b) = strongIds a ++ strongIds b := by
  simp [strongIds]

/-- split the table at `p`: the ids on either side differ from `p`'s -/
theorem strongIds_erase {hs : List (Nat × Bool)} {p : Nat × Bool} (hp : p ∈ hs) (hnd : (hs.map (·.1)).Nodup) :
    strongIds (hs.erase p) = (strongIds hs).filter (· != p.1) := by
  obtain ⟨l₁, l₂, -, rfl, he⟩ := List.exists_erase_eq hp
  rw [List.map_append, List.map_cons, List.nodup_append, List.nodup_cons] at hnd
  have keep (l : List (Nat × Bool)) (hl : p.1 ∉ l.map (·.1)) : (strongIds l).filter (· != p.1) = strongIds l :=
    List.filter_eq_self.mpr fun x hx => bne_iff_ne.mpr fun hxp => hl (hxp ▸ (List.filter_sublist.map _).subset hx)
  rw [he, List.append_cons, strongIds_append, strongIds_append, strongIds_append, List.filter_append, List.filter_append,
    keep l₁ fun h => hnd.2.2 _ h _ (List.mem_cons_self ..) rfl, keep l₂ hnd.2.1.1]
  cases hb : p.2 <;> simp [strongIds, hb]

/-- an upgrade fails only when no strong reference at all exists, in particular no strong handle -/
theorem strongIds_of_strongCount {s : Sys} (h0 : ¬ s.strongCount > 0) : strongIds s.handles = [] := by
  have : (s.handles.filter (·.2)).length = 0 := by
    simp only [Sys.strongCount, strongHandles] at h0; omega
  rw [strongIds, List.length_eq_zero_iff.mp this]; rfl

theorem strongCount_pos {s : Sys} {h : Nat} (hh : (h, true) ∈ s.handles) : 0 < s.strongCount := by
  have : 0 < strongHandles s.handles := List.length_pos_of_mem (List.mem_filter.mpr ⟨hh, rfl⟩)
  unfold Sys.strongCount; omega

theorem _root_.Rsactor.Monitor.C11.upStep_of_not_owner {e : Ev} (h : e.party ≠ .owner) {st : List Nat × Bool} : C11.upStep st e = st := by
  cases e <;> first | rfl | exact absurd rfl h

theorem HInv.log {s s' : Sys} (h : HInv s) {c : List Ev} (hev : s'.ev = s.ev ++ c)
    (hh : s'.handles = s.handles) (hn : s'.nextHid = s.nextHid)
    (hc : ∀ e ∈ c, C11.upStep (strongIds s.handles, true) e = (strongIds s.handles, true)) : HInv s' := by
  rw [HInv, hev, hh, hn, List.foldl_append, h.1, foldl_fixed hc]
  exact ⟨rfl, h.2⟩

theorem HInv.new {s : Sys} {st : Bool} (h : HInv s) :
    HInv { s with handles := s.handles ++ [(s.nextHid, st)], nextHid := s.nextHid + 1,
                  ev := s.ev ++ [.handleNew s.nextHid st] } := by
  obtain ⟨hf, hnd, hlt⟩ := h
  refine ⟨?_, ?_, fun p hp => ?_⟩
  · rw [List.foldl_append, hf, strongIds_append]
    cases st <;> simp [C11.upStep, strongIds]
  · rw [List.map_append]
    exact nodup_snoc hnd fun ha => let ⟨p, hp, he⟩ := List.mem_map.mp ha; Nat.lt_irrefl _ (he ▸ hlt p hp)
  · rcases List.mem_append.mp hp with hp | hp
    · exact Nat.lt_succ_of_lt (hlt p hp)
    · cases List.mem_singleton.mp hp; exact Nat.lt_succ_self _

theorem HInv.drop {s : Sys} (h : HInv s) {p : Nat × Bool} (hp : p ∈ s.handles) :
    HInv { s with handles := s.handles.erase p, ev := s.ev ++ [.handleDrop p.1] } := by
  obtain ⟨hf, hnd, hlt⟩ := h
  refine ⟨?_, (List.erase_sublist.map _).nodup hnd, fun q hq => hlt q (List.mem_of_mem_erase hq)⟩
  rw [List.foldl_append, hf, strongIds_erase hp hnd]
  rfl

theorem Reachable.hInv {s : Sys} (h : Reachable s) : HInv s := by
  induction h with
  | init => exact ⟨rfl, List.pairwise_singleton _ _, fun p hp => by cases List.mem_singleton.mp hp; exact Nat.zero_lt_one⟩
  | step _ st ih =>
    rcases st.owner_or_frame with hh | hf
    · cases hh with
      | clone | downgrade | upgrade => exact ih.new
      | drop _ hp => exact ih.drop hp
      | upgradeFailed _ _ h0 =>
        exact ih.log (c := [_]) rfl rfl rfl (List.forall_mem_singleton.mpr (by rw [strongIds_of_strongCount h0]; rfl))
      | probe => exact ih.log (c := [_]) rfl rfl rfl (List.forall_mem_singleton.mpr rfl)
    · obtain ⟨c, hc, hp⟩ := hf.ev
      exact ih.log hc hf.handles hf.nextHid fun e he => C11.upStep_of_not_owner (hp e he)

end Rsactor.Model
