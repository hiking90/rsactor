/- `Err(Send)` means the actor is gone: an operation is answered with a send error only after the actor's task has
   finished (its receivers are dropped in the step that logs `joined`).  A running actor never refuses a message -
   whatever the fill level of its mailbox and whatever else is pending.  Model-level statement behind the trace
   monitor `C09.failOnlyWhenClosed`. -/
import Rsactor.Inv.Step

namespace Rsactor.Model

def hasJoined (ev : List Ev) : Prop := ∃ o, Ev.joined o ∈ ev

def SendInv (s : Sys) : Prop :=
  (s.rxOpen = false → hasJoined s.ev) ∧ (∀ oid a, Ev.ret oid .send a ∈ s.ev → hasJoined s.ev)

theorem hasJoined_append {ev : List Ev} (chunk : List Ev) (h : hasJoined ev) : hasJoined (ev ++ chunk) := by
  obtain ⟨o, ho⟩ := h; exact ⟨o, List.mem_append_left _ ho⟩

theorem SendInv.log {s s' : Sys} (h : SendInv s) {c : List Ev} (hev : s'.ev = s.ev ++ c) (hx : s'.rxOpen = s.rxOpen)
    (hn : ∀ oid a, Ev.ret oid .send a ∈ c → s.rxOpen = false) : SendInv s' := by
  rw [SendInv, hev, hx]
  exact ⟨fun hc => hasJoined_append c (h.1 hc), fun oid a hm =>
    hasJoined_append c ((List.mem_append.mp hm).elim (h.2 oid a) fun hm => h.1 (hn oid a hm))⟩

theorem SendInv.complete {b : Sys} {oid : Nat} {r : Res} {why : Option Reason} (h : SendInv b)
    (hr : r = .send → b.rxOpen = false) : SendInv (b.complete oid r why) :=
  h.log (List.append_assoc ..) rfl fun _ _ hm => hr (ret_mem_complete hm).2.symm

theorem SendInv.issue {s : Sys} {op : OpSpec} (h : SendInv s) : SendInv (issueBase s op) :=
  h.log (c := [_]) rfl rfl (by simp)

theorem hasJoined_finish (b : Sys) (o : Outcome) (evs : List Ev) : hasJoined (b.finish o evs).ev :=
  ⟨o, List.mem_append_right _ (List.mem_singleton_self _)⟩

theorem SendInv.step {s s' : Sys} {l : Label} (h : SendInv s) (st : Step s l s') : SendInv s' := by
  rcases st.client_or_frame with hc | hf
  · -- the two steps that answer with a send error are guarded by `rxOpen = false`
    cases hc with
    | kill | stopClosed => exact SendInv.complete h.issue nofun
    | sendClosed _ _ _ _ _ _ hx => exact SendInv.complete h.issue fun _ => hx
    | enqueue => exact h.issue
    | wakeClosed _ _ _ _ _ hx => exact SendInv.complete h fun _ => hx
    | wakeGranted | strandAsk => exact h
    | pushAsk => exact h.log (c := [_]) rfl rfl (by simp)
    | push => exact SendInv.complete (h.log (c := [_]) rfl rfl (by simp)) nofun
    | _ => exact SendInv.complete h nofun
  · -- no `ret` is logged; only the actor's own steps touch `rxOpen`
    obtain ⟨c, hc, hp⟩ := hf.ev
    have hn (oid a) (hm : Ev.ret oid .send a ∈ c) : s.rxOpen = false := absurd rfl (hp _ hm)
    rcases st.actor_or_frame with ha | hf'
    · -- the actor's task drops the receivers in the step that logs `joined`
      rcases ha.finish_or with ⟨b, o, evs, rfl⟩ | ⟨hx, _⟩
      · exact ⟨fun _ => hasJoined_finish .., fun _ _ _ => hasJoined_finish ..⟩
      · exact h.log hc hx hn
    · exact h.log hc hf'.rxOpen hn

theorem Reachable.sendInv {s : Sys} (h : Reachable s) : SendInv s := by
  induction h with
  | init => exact ⟨nofun, nofun⟩
  | step _ st ih => exact ih.step st

theorem send_run (cap : Nat) (sc : Script) (ls : List Label) (s : Sys)
    (hr : run? (init cap sc) ls = some s) : SendInv s := (Reachable.of_run hr).sendInv

theorem SendInv_init (cap : Nat) (sc : Script) : SendInv (init cap sc) := (Reachable.init cap sc).sendInv

theorem SendInv_step (s s' : Sys) (l : Label) (h : SendInv s) (hs : step? s l = some s') : SendInv s' :=
  h.step (.of_step? hs)

end Rsactor.Model
