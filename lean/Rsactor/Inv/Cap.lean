/- C09: slot accounting - the capacity bound `mbox.length + #granted ≤ cap`, and no slot lies idle while a sender waits -
   as an invariant of every run. -/
import Rsactor.Inv.Step

namespace Rsactor.Model

theorem gc_cons (w : Waiter) (ws : List Waiter) :
    grantedCount (w :: ws) = (if w.granted then 1 else 0) + grantedCount ws := by
  cases h : w.granted <;> simp [grantedCount, h, Nat.add_comm]

theorem gc_append (a b : List Waiter) : grantedCount (a ++ b) = grantedCount a + grantedCount b := by
  simp [grantedCount, List.filter_append]

theorem gc_snoc (ws : List Waiter) (w : Waiter) :
    grantedCount (ws ++ [w]) = grantedCount ws + (if w.granted then 1 else 0) := by
  rw [gc_append, gc_cons]; rfl

theorem gc_erase_le (ws : List Waiter) (w : Waiter) : grantedCount (ws.erase w) ≤ grantedCount ws :=
  (List.erase_sublist.filter _).length_le

/-- `ws` is `w :: ws.erase w` up to order -/
theorem gc_erase {ws : List Waiter} {w : Waiter} (hm : w ∈ ws) :
    grantedCount (ws.erase w) + (if w.granted then 1 else 0) = grantedCount ws := by
  have := ((List.perm_cons_erase hm).filter (·.granted)).length_eq
  rw [← grantedCount, ← grantedCount, gc_cons] at this
  omega

theorem gc_map_acq (ws : List Waiter) (w : Waiter) :
    grantedCount (ws.map (fun x => if x = w then { x with acq := true } else x)) = grantedCount ws := by
  unfold grantedCount
  rw [List.filter_map, List.length_map]
  congr 2; funext x; simp only [Function.comp]; split <;> rfl

def hasUngranted (ws : List Waiter) : Prop := ∃ w ∈ ws, w.granted = false

theorem all_granted_iff {ws : List Waiter} : ws.all (·.granted) = true ↔ ¬ hasUngranted ws := by
  simp [hasUngranted]

theorem hasUngranted.of_erase {ws : List Waiter} {w : Waiter} (h : hasUngranted (ws.erase w)) : hasUngranted ws :=
  h.imp fun _ hx => ⟨List.mem_of_mem_erase hx.1, hx.2⟩

theorem hasUngranted.of_map_acq {ws : List Waiter} {w : Waiter}
    (h : hasUngranted (ws.map (fun x => if x = w then { x with acq := true } else x))) : hasUngranted ws := by
  obtain ⟨_, hy, hg⟩ := h
  obtain ⟨x, hx, rfl⟩ := List.mem_map.mp hy
  refine ⟨x, hx, ?_⟩
  split at hg <;> exact hg

theorem grantFirst_all (ws : List Waiter) (h : ¬ hasUngranted ws) : grantFirst ws = ws := by
  induction ws with
  | nil => rfl
  | cons x xs ih =>
    have hx : x.granted = true := Bool.of_not_eq_false fun hg => h ⟨x, List.mem_cons_self .., hg⟩
    rw [grantFirst, if_pos hx, ih fun hu => h (hu.imp fun _ hw => ⟨List.mem_cons_of_mem _ hw.1, hw.2⟩)]

theorem gc_grantFirst_eq {ws : List Waiter} (h : hasUngranted ws) :
    grantedCount (grantFirst ws) = grantedCount ws + 1 := by
  induction ws with
  | nil => obtain ⟨_, hw, _⟩ := h; cases hw
  | cons x xs ih =>
    rw [grantFirst]
    cases hx : x.granted with
    | false => simp [gc_cons, hx, Nat.add_comm]
    | true =>
      obtain ⟨w, hw, hg⟩ := h
      have hxs : hasUngranted xs := by
        cases hw with
        | head => exact absurd hx (hg ▸ nofun)
        | tail _ hm => exact ⟨w, hm, hg⟩
      simp [gc_cons, hx, ih hxs, Nat.add_assoc]

/-- every waiter that finished `reserve()` holds a permit -/
def AcqGranted (ws : List Waiter) : Prop := ∀ w ∈ ws, w.acq = true → w.granted = true

theorem AcqGranted.of_grantFirst {ws : List Waiter} (h : AcqGranted ws) : AcqGranted (grantFirst ws) := by
  induction ws with
  | nil => exact h
  | cons w ws ih =>
    obtain ⟨hw, hws⟩ := List.forall_mem_cons.mp h
    simp only [grantFirst]
    split
    · exact List.forall_mem_cons.mpr ⟨hw, ih hws⟩
    · exact List.forall_mem_cons.mpr ⟨fun _ => rfl, hws⟩

/-- "a send never waits while a slot is free": as long as the mailbox is open, a sender is queued without a permit only
    when every slot is taken or promised -/
def NoIdleSlot (s : Sys) : Prop :=
  s.rxOpen = true → hasUngranted s.waiters → s.cap ≤ s.mbox.length + grantedCount s.waiters

/-- slot accounting, on the four things it reads (mailbox, queue, capacity, "the receivers exist"): the capacity bounds
    the items in the mailbox plus the permits handed out, from above always and (`NoIdleSlot`) from below while the
    mailbox is open and somebody waits; `AcqGranted` is what the push needs to keep the count -/
def Slots (mb : List Item) (ws : List Waiter) (cap : Nat) (rx : Bool) : Prop :=
  mb.length + grantedCount ws ≤ cap ∧ AcqGranted ws ∧
  (rx = true → hasUngranted ws → cap ≤ mb.length + grantedCount ws)

def CapInv (s : Sys) : Prop := Slots s.mbox s.waiters s.cap s.rxOpen

section
variable {mb : List Item} {ws : List Waiter} {cap : Nat} {rx : Bool}

theorem Slots.enqueue {oid : Nat} {it : Item} {g : Bool} (h : Slots mb ws cap rx)
    (hg : g = decide (mb.length + grantedCount ws < cap ∧ ws.all (·.granted) = true)) :
    Slots mb (ws ++ [⟨oid, it, g, g⟩]) cap rx := by
  obtain ⟨h1, h2, h3⟩ := h
  refine ⟨?_, List.forall_mem_append.mpr ⟨h2, List.forall_mem_singleton.mpr id⟩, fun ho hu => ?_⟩
  all_goals rw [gc_snoc]
  · cases g
    · exact h1
    · exact (of_decide_eq_true hg.symm).1
  · by_cases hq : hasUngranted ws
    · exact Nat.le_trans (h3 ho hq) (Nat.add_le_add_left (Nat.le_add_right ..) _)
    · -- nobody is queued ahead: the new sender goes without a permit only if no slot is free
      cases g with
      | true =>
        obtain ⟨x, hx, hxg⟩ := hu
        rcases List.mem_append.mp hx with hx | hx
        · exact absurd ⟨x, hx, hxg⟩ hq
        · cases List.mem_singleton.mp hx; cases hxg
      | false => exact Nat.le_of_not_lt fun hlt => of_decide_eq_false hg.symm ⟨hlt, all_granted_iff.mpr hq⟩

/-- a sender leaves the queue without pushing: it held no permit (its timer fired), or the mailbox is closed -/
theorem Slots.erase {w : Waiter} (h : Slots mb ws cap rx) (hw : w ∈ ws) (hc : w.granted = false ∨ rx = false) :
    Slots mb (ws.erase w) cap rx := by
  refine ⟨Nat.le_trans (Nat.add_le_add_left (gc_erase_le ..) _) h.1, fun x hx => h.2.1 x (List.mem_of_mem_erase hx),
    fun ho hu => ?_⟩
  have : grantedCount (ws.erase w) = grantedCount ws := by
    have := gc_erase hw; rwa [hc.resolve_right fun hc => nomatch hc.symm.trans ho] at this
  exact this ▸ h.2.2 ho hu.of_erase

theorem Slots.acquire {w : Waiter} (h : Slots mb ws cap rx) (hg : w.granted = true) :
    Slots mb (ws.map (fun x => if x = w then { x with acq := true } else x)) cap rx := by
  refine ⟨gc_map_acq ws w ▸ h.1, List.forall_mem_map.mpr fun y hy => ?_,
    fun ho hu => gc_map_acq ws w ▸ h.2.2 ho hu.of_map_acq⟩
  split
  · exact fun _ => ‹y = w› ▸ hg
  · exact h.2.1 y hy

/-- the sender's permit becomes the slot its item occupies -/
theorem Slots.accept {w : Waiter} {it : Item} (h : Slots mb ws cap rx) (hw : w ∈ ws) (ha : w.acq = true) :
    Slots (mb ++ [it]) (ws.erase w) cap rx := by
  have := gc_erase hw
  rw [h.2.1 w hw ha, if_pos rfl] at this
  have hs : (mb ++ [it]).length + grantedCount (ws.erase w) = mb.length + grantedCount ws := by
    rw [List.length_append, List.length_singleton]; omega
  exact ⟨hs ▸ h.1, fun x hx => h.2.1 x (List.mem_of_mem_erase hx), fun ho hu => hs ▸ h.2.2 ho hu.of_erase⟩

/-- the slot of the dequeued item goes to the first sender queued for one, if there is one -/
theorem Slots.take {it : Item} {rest : List Item} (h : Slots (it :: rest) ws cap rx) :
    Slots rest (grantFirst ws) cap rx := by
  obtain ⟨h1, h2, h3⟩ := h
  rw [List.length_cons] at h1 h3
  refine ⟨?_, h2.of_grantFirst, fun ho hu => ?_⟩ <;> by_cases hq : hasUngranted ws
  · rw [gc_grantFirst_eq hq]; omega
  · rw [grantFirst_all _ hq]; omega
  · have := h3 ho hq
    rw [gc_grantFirst_eq hq]; omega
  · exact absurd (grantFirst_all _ hq ▸ hu) hq

theorem Slots.finish (h : Slots mb ws cap rx) : Slots [] ws cap false :=
  ⟨Nat.le_trans (Nat.add_le_add_right (Nat.zero_le _) _) h.1, h.2.1, nofun⟩

end

theorem RunStep.capInv {b s' : Sys} (h : RunStep b s') (hb : CapInv b) : CapInv s' := by
  cases h with
  | panic => exact Slots.finish hb
  | _ => exact hb

theorem CapInv.step {s s' : Sys} {l : Label} (h : CapInv s) (st : Step s l s') : CapInv s' := by
  cases st with
  | client hc =>
    cases hc with
    | enqueue _ _ _ _ _ _ _ hg => exact h.enqueue hg
    | wakeGranted _ _ _ _ hg => exact h.acquire hg
    | push _ hw ha | pushAsk _ _ hw ha => exact h.accept hw ha
    | timeoutSend _ _ hw hg => exact h.erase hw (.inl hg)
    | wakeClosed _ _ _ hw _ hc | wakeClosedStop _ _ hw _ hc | strand _ hw _ hc | strandAsk _ _ hw _ hc =>
      exact h.erase hw (.inr hc)
    | _ => exact h
  | actor ha =>
    cases ha with
    | mailEnv _ _ _ _ hm | mailStopKill _ _ _ hm | mailStop _ _ _ hm => rw [CapInv, hm] at h; exact h.take
    | startErr | startPanic | handlerPanic | stopDone => exact Slots.finish h
    | runAgain _ _ _ hr | runFresh _ _ _ hr => exact hr.capInv h
    | _ => exact h
  | owner hh => cases hh <;> exact h
  | gate | advance _ => exact h

theorem Reachable.capInv {s : Sys} (h : Reachable s) : CapInv s := by
  induction h with
  | init => exact ⟨Nat.zero_le _, nofun, fun _ ⟨_, hw, _⟩ => nomatch hw⟩
  | step _ st ih => exact ih.step st

theorem Reachable.noIdleSlot {s : Sys} (h : Reachable s) : NoIdleSlot s := h.capInv.2.2

/-- C09 `bound`: accepted-but-not-taken items plus reserved slots never exceed the capacity. -/
theorem capacity_bound (cap : Nat) (sc : Script) (ls : List Label) (s : Sys)
    (hr : run? (init cap sc) ls = some s) :
    s.mbox.length + grantedCount s.waiters ≤ s.cap :=
  (Reachable.of_run hr).capInv.1

end Rsactor.Model
