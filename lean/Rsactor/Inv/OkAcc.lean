/- A tell that is reported as `Ok` did go into the channel: it was accepted by the mailbox (event `accepted`)
   or - in the window after the actor dropped its receivers while the sender already held its permit - it lies in
   the closed channel.  This is the model-level statement behind the trace monitor `C09.okMeansAccepted`.

   Proved for every operation that sends an item (`OkRet`): the stop() clause in `Inv/OkStop.lean` is the same
   invariant read at a stop marker. -/
import Rsactor.Inv.Ids
import Rsactor.Inv.SendErr

namespace Rsactor.Model

def OkInv (s : Sys) : Prop :=
  ∀ oid a, Ev.ret oid .ok a ∈ s.ev → (s.spec oid).kind = .tell →
    (∃ i, Ev.accepted oid i ∈ s.ev) ∨ Item.env oid .tell ∈ s.stranded

/-- what `Ok` says of the item `it` that operation `oid` sends, given the history and the content of the closed
    channel: it was accepted, or it lies in the closed channel, or it is a stop marker and the actor's task had
    finished (stop() reports `Ok` on a closed mailbox) -/
def OkMeans (ev : List Ev) (st : List Item) (oid : Nat) (it : Item) : Prop :=
  (∃ i, Ev.accepted oid i ∈ ev) ∨ it ∈ st ∨ (∃ o, it = .stop o) ∧ hasJoined ev

theorem OkMeans.mono {ev ev' : List Ev} {st st' : List Item} {oid : Nat} {it : Item} (h : OkMeans ev st oid it)
    (hev : ev ⊆ ev') (hst : st ⊆ st') : OkMeans ev' st' oid it :=
  h.imp (fun ⟨i, hi⟩ => ⟨i, hev hi⟩) (Or.imp (@hst it) (And.imp_right fun ⟨o, ho⟩ => ⟨o, hev ho⟩))

def OkRet (s : Sys) : Prop :=
  ∀ oid a it, Ev.ret oid .ok a ∈ s.ev → opItem oid (s.spec oid).kind = some it → OkMeans s.ev s.stranded oid it

theorem OkRet.log {s s' : Sys} (h : OkRet s) {c : List Ev} (hev : s'.ev = s.ev ++ c)
    (hsp : ∀ oid a, Ev.ret oid .ok a ∈ s.ev → s'.spec oid = s.spec oid) (hst : s.stranded ⊆ s'.stranded)
    (hn : ∀ oid a it, Ev.ret oid .ok a ∈ c → opItem oid (s'.spec oid).kind = some it →
      OkMeans s.ev s.stranded oid it) : OkRet s' := by
  intro oid a it hm hit
  rw [hev] at hm ⊢
  refine OkMeans.mono ?_ (List.subset_append_left ..) hst
  rcases List.mem_append.mp hm with hm | hm
  · exact h oid a it hm (hsp oid a hm ▸ hit)
  · exact hn oid a it hm hit

theorem OkRet.complete {b : Sys} {oid : Nat} {r : Res} {why : Option Reason} (h : OkRet b)
    (hr : r = .ok → ∀ it, opItem oid (b.spec oid).kind = some it → OkMeans b.ev b.stranded oid it) :
    OkRet (b.complete oid r why) :=
  h.log (List.append_assoc ..) (fun _ _ _ => rfl) (fun _ => id) fun o a it hm => by
    obtain ⟨rfl, hk⟩ := ret_mem_complete hm
    exact hr hk.symm it

theorem OkRet.issue {s : Sys} {op : OpSpec} (h : OkRet s) (hi : IdsInv s) : OkRet (issueBase s op) :=
  h.log (c := [_]) rfl (fun oid a hm => setF_ne (Nat.ne_of_lt (hi.retLt oid .ok a hm))) (fun _ => id) (by simp)

theorem OkRet.accept {s : Sys} {oid i : Nat} (h : OkRet s) : OkRet { s with ev := s.ev ++ [.accepted oid i] } :=
  h.log rfl (fun _ _ _ => rfl) (fun _ => id) (by simp)

theorem OkRet.strand {s : Sys} {it : Item} (h : OkRet s) : OkRet { s with stranded := s.stranded ++ [it] } :=
  h.log (c := []) (List.append_nil _).symm (fun _ _ _ => rfl) (List.subset_append_left ..) nofun

/-- the operation that is being issued returns at once (`t`: as in `IdsInv.issue`) -/
theorem OkRet.issueRet {s : Sys} {op : OpSpec} {r : Res} {why : Option Reason} {t : Bool} (h : OkRet s) (hi : IdsInv s)
    (hr : r = .ok → ∀ it, opItem s.nextOid op.kind = some it → OkMeans s.ev s.stranded s.nextOid it) :
    OkRet ({ issueBase s op with termSlot := t }.complete s.nextOid r why) :=
  OkRet.complete (h.issue hi) fun hk it hit =>
    (hr hk it ((congrArg (fun o : OpSpec => opItem _ o.kind) (setF_self ..)).symm.trans hit)).mono
      (List.subset_append_left ..) fun _ => id

theorem Reachable.okRet {s : Sys} (h : Reachable s) : OkRet s := by
  induction h with
  | init => exact nofun
  | @step s s' l hr st ih =>
    have hi := hr.idsInv
    rcases st.client_or_frame with hc | hf
    · -- five steps log an `Ok` return
      have item {w it} (hw : w ∈ s.waiters) (hit : opItem w.oid (s.spec w.oid).kind = some it) : it = w.item :=
        Option.some.inj (hit.symm.trans (hi.waiter hw).2.2.2)
      cases hc with
      | kill _ _ _ hk => exact ih.issueRet hi fun _ _ hit => nomatch hk ▸ hit
      | sendClosed => exact ih.issueRet hi nofun
      | stopClosed _ _ o _ hit hx =>
        exact ih.issueRet hi fun _ _ hit' =>
          .inr (.inr ⟨⟨o, Option.some.inj (hit'.symm.trans hit)⟩, hr.sendInv.1 hx⟩)
      | enqueue => exact ih.issue hi
      | wakeClosedStop w o hw _ hx hit =>
        exact OkRet.complete ih fun _ _ hit' => .inr (.inr ⟨⟨o, (item hw hit').trans hit⟩, hr.sendInv.1 hx⟩)
      | wakeGranted => exact ih
      | pushAsk => exact ih.accept
      | push =>
        exact OkRet.complete ih.accept fun _ _ _ =>
          .inl ⟨_, List.mem_append_right _ (List.mem_singleton_self _)⟩
      | strandAsk => exact ih.strand
      | strand w hw =>
        exact OkRet.complete ih.strand fun _ it hit =>
          .inr (.inl (List.mem_append_right _ (List.mem_singleton.mpr (item hw ((hi.waiter hw).1 ▸ hit)))))
      | _ => exact OkRet.complete ih nofun
    · obtain ⟨c, hc, hp⟩ := hf.ev
      exact ih.log hc (fun _ _ _ => congrFun hf.spec _) (fun _ hm => hf.stranded ▸ hm)
        fun _ _ _ hm => absurd rfl (hp _ hm)

theorem Reachable.okInv {s : Sys} (h : Reachable s) : OkInv s := fun oid a hm hk =>
  (h.okRet oid a _ hm (congrArg (opItem oid) hk)).imp_right fun h => h.elim id fun ⟨⟨_, he⟩, _⟩ => nomatch he

theorem OkInv_waiters {s : Sys} (h : OkInv s) (ws : List Waiter) (c : Nat → CSt) :
    OkInv { s with waiters := ws, client := c } := h

theorem ok_run (cap : Nat) (sc : Script) (ls : List Label) (s : Sys)
    (hr : run? (init cap sc) ls = some s) : OkInv s := (Reachable.of_run hr).okInv

end Rsactor.Model
