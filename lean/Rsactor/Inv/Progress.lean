/- Progress: in a quiescent state with an idle (or ended) actor every operation has returned.  Rests on `NoIdleSlot`
   (Inv/Cap.lean: no permit lies idle while a sender waits) and on the bookkeeping below. -/
import Rsactor.Inv.Cap
import Rsactor.Inv.End
import Rsactor.Exec

namespace Rsactor.Model

def AwaitSlot (c : Nat → CSt) (r : Nat → RSt) : Prop := ∀ o, c o = .awaiting → r o ≠ .none

theorem AwaitSlot.setClient {c : Nat → CSt} {r : Nat → RSt} {k : Nat} {v : CSt} (h : AwaitSlot c r)
    (hv : v = .awaiting → r k ≠ .none) : AwaitSlot (setF c k v) r := by
  intro o ho
  unfold setF at ho; split at ho
  · exact ‹o = k› ▸ hv ho
  · exact h o ho

theorem AwaitSlot.setReply {c : Nat → CSt} {r : Nat → RSt} {k : Nat} {v : RSt} (h : AwaitSlot c r)
    (hv : v ≠ .none) : AwaitSlot c (setF r k v) := by
  intro o ho
  unfold setF; split
  · exact hv
  · exact h o ho

theorem AwaitSlot.ask {c : Nat → CSt} {r : Nat → RSt} {k : Nat} (h : AwaitSlot c r) :
    AwaitSlot (setF c k .awaiting) (setF r k .pending) :=
  (h.setReply (v := .pending) nofun).setClient fun _ => by simp [setF]

theorem AwaitSlot.drop {c : Nat → CSt} {r : Nat → RSt} {mb : List Item} (h : AwaitSlot c r) :
    AwaitSlot c (dropReplies mb r) := by
  intro o ho
  unfold dropReplies; split
  · nofun
  · exact h o ho

theorem RunStep.awaitSlot {b s' : Sys} (h : RunStep b s') (hb : AwaitSlot b.client b.reply) :
    AwaitSlot s'.client s'.reply := by
  cases h with
  | panic => exact hb.drop
  | _ => exact hb

theorem Reachable.awaitSlot {s : Sys} (h : Reachable s) : AwaitSlot s.client s.reply := by
  induction h with
  | init => exact nofun
  | step _ st ih =>
    cases st with
    | client hc =>
      cases hc with
      | wakeGranted => exact ih
      | pushAsk | strandAsk => exact ih.ask
      | _ => exact ih.setClient nofun
    | actor ha =>
      cases ha with
      | handlerAsk => exact ih.setReply nofun
      | handlerPanic _ k =>
        cases k with
        | tell => exact ih.drop
        | ask => exact (ih.setReply (v := .dropped) nofun).drop
      | startErr | startPanic | stopDone => exact ih.drop
      | runAgain _ _ _ hr | runFresh _ _ _ hr => exact hr.awaitSlot ih
      | _ => exact ih
    | owner hh => cases hh <;> exact ih
    | gate | advance => exact ih

theorem Reachable.strandedClosed {s : Sys} (h : Reachable s) : s.stranded ≠ [] → s.rxOpen = false := by
  induction h with
  | init => exact fun hs => absurd rfl hs
  | step hr st ih =>
    cases st with
    | client hc =>
      cases hc with
      | strand _ _ _ hc | strandAsk _ _ _ _ hc => exact fun _ => hc
      | _ => exact ih
    -- the channel is closed for good: the actor has ended
    | actor ha => exact fun hs => absurd (hr.closed_iff.mp (ih (ha.clientFrame.stranded ▸ hs))) ha.pc_ne_ended
    | owner hh => cases hh <;> exact ih
    | gate | advance => exact ih

/-- the operations waiting for a slot are those of the queued senders; an operation awaiting a reply has a reply slot;
    items are stranded only in a closed channel -/
def ProgInv (s : Sys) : Prop :=
  Queued s.waiters s.client ∧ AwaitSlot s.client s.reply ∧ (s.stranded ≠ [] → s.rxOpen = false)

theorem Reachable.progInv {s : Sys} (h : Reachable s) : ProgInv s := ⟨h.queued, h.awaitSlot, h.strandedClosed⟩

open Rsactor.Exec

/-- the runtime has nothing left to run: neither the actor's task nor any client operation can take a step
    (what remains enabled is the environment: new operations, gates, the clock) -/
def quiescent (s : Sys) : Prop := actorLabel s = none ∧ ∀ oid, clientLabel s oid = none

/-- a queued sender that has nothing to run is waiting for a permit at an open mailbox -/
theorem quiescent.sender {s : Sys} {w : Waiter} (hq : quiescent s) (hnd : ((wkeys s.waiters).map (·.1)).Nodup)
    (hw : w ∈ s.waiters) (hc : s.client w.oid = .waiting) :
    w.acq = false ∧ w.granted = false ∧ s.rxOpen = true := by
  have h := hq.2 w.oid
  simp only [clientLabel, hc, find?_oid hnd hw] at h
  cases ha : w.acq <;> cases hg : w.granted <;> cases ho : s.rxOpen <;> simp [ha, hg, ho] at h ⊢

/-- an asker that has nothing to run has no answer yet, from a live actor -/
theorem quiescent.asker {s : Sys} {oid : Nat} (hq : quiescent s) (hc : s.client oid = .awaiting) :
    s.reply oid ≠ .sent ∧ s.reply oid ≠ .dropped ∧ s.rxOpen = true := by
  have h := hq.2 oid
  simp only [clientLabel, hc] at h
  cases hr : s.reply oid <;> cases ho : s.rxOpen <;>
    simp [hr, ho, show Extracted.ask_wait_watches_closed = true from rfl] at h ⊢

/-- in a quiescent state the actor is idle, has ended, or is inside a hook that waits for its own external event (a gate
    with no permit) - nothing else stops the actor's task -/
theorem quiescent_actor_where (s : Sys) (hq : quiescent s) :
    s.pc = .parked ∨ s.pc = .ended ∨
    (s.gatePermits = 0 ∧ (s.pc = .starting ∨ (∃ m k, s.pc = .inHandler m k) ∨ ∃ a b c, s.pc = .stopping a b c)) := by
  have h := hq.1
  unfold actorLabel at h
  cases hpc : s.pc with
  | parked => exact .inl rfl
  | ended => exact .inr (.inl rfl)
  | selTerm | selMail | selRun => rw [hpc] at h; cases h
  | starting | inHandler | stopping =>
    have hg : s.gatePermits = 0 := by simpa [hpc] using h
    exact .inr (.inr ⟨hg, by simp⟩)

/-- a parked actor in a quiescent state is referenced, has no kill pending and an empty mailbox: with a pending kill,
    without any strong reference, or with mail waiting, the parked loop is woken (and then stops or serves) -/
theorem quiescent_parked (s : Sys) (hq : quiescent s) (hpk : s.pc = .parked) :
    s.termSlot = false ∧ s.strongCount ≠ 0 ∧ s.mbox = [] := by
  have h := hq.1
  simp only [actorLabel, hpk] at h
  split at h
  · cases h
  · rename_i hcond
    simp only [Bool.or_eq_true, not_or] at hcond
    exact ⟨by simpa using hcond.1.1.1, by simpa using hcond.1.1.2, by simpa using hcond.1.2⟩

/-- hence: in a quiescent state an actor with a kill pending, or with no strong reference left, or with mail waiting,
    has ended - unless it is inside a hook that waits for its own external event -/
theorem quiescent_due_has_ended (s : Sys) (hq : quiescent s)
    (hdue : s.termSlot = true ∨ s.strongCount = 0 ∨ s.mbox ≠ []) :
    s.pc = .ended ∨
    (s.gatePermits = 0 ∧ (s.pc = .starting ∨ (∃ m k, s.pc = .inHandler m k) ∨ ∃ a b c, s.pc = .stopping a b c)) := by
  rcases quiescent_actor_where s hq with h | h | h
  · obtain ⟨h1, h2, h3⟩ := quiescent_parked s hq h
    rcases hdue with hd | hd | hd
    · rw [h1] at hd; cases hd
    · exact absurd hd h2
    · exact absurd h3 hd
  · exact Or.inl h
  · exact Or.inr h

/-- **No operation is left hanging.**  In every reachable state in which the runtime has nothing left to run and the
    actor is idle (parked in its select with an empty mailbox) or has ended, every operation that was ever issued has
    returned: no sender is still waiting for a slot and no asker is still waiting for a reply. -/
theorem quiescent_all_returned (cap : Nat) (sc : Script) (ls : List Label) (s : Sys) (hcap : 0 < cap)
    (hr : run? (init cap sc) ls = some s) (hq : quiescent s) (hidle : s.pc = .parked ∨ s.pc = .ended) (oid : Nat) :
    s.client oid ≠ .waiting ∧ s.client oid ≠ .awaiting := by
  have hreach := Reachable.of_run hr
  -- an ended actor has a closed mailbox; a parked one has an open, empty one
  have hopen (ho : s.rxOpen = true) : s.pc = .parked ∧ s.mbox = [] :=
    have hpk := hidle.resolve_right fun he => nomatch ho.symm.trans (hreach.closed_iff.mpr he)
    ⟨hpk, (quiescent_parked s hq hpk).2.2⟩
  constructor
  · intro hw
    obtain ⟨w, hwm, rfl⟩ := mem_keys.mp ((hreach.queued oid).mp hw)
    -- no queued sender holds a permit (it could run) and the mailbox is empty: a sender waits while every slot is free
    have hwait (x : Waiter) (hx : x ∈ s.waiters) : x.granted = false ∧ s.rxOpen = true :=
      (hq.sender hreach.idsInv.wNodup hx ((hreach.queued _).mpr (mem_keys.mpr ⟨x, hx, rfl⟩))).2
    have ho := (hwait w hwm).2
    have hfull := hreach.noIdleSlot ho ⟨w, hwm, (hwait w hwm).1⟩
    have hz : grantedCount s.waiters = 0 :=
      List.length_eq_zero_iff.mpr (List.filter_eq_nil_iff.mpr fun x hx => by simp [(hwait x hx).1])
    rw [(hopen ho).2, hz, cap_run hr] at hfull
    -- with capacity 0 (refused at spawn: `C09.zero_rejected`) every sender would wait for ever
    exact absurd hfull (Nat.not_le.mpr hcap)
  · intro ha
    obtain ⟨hns, hnd, ho⟩ := hq.asker ha
    obtain ⟨hpk, hmb⟩ := hopen ho
    -- the reply is pending, but the envelope is nowhere
    cases hrp : s.reply oid with
    | sent => exact hns hrp
    | dropped => exact hnd hrp
    | none => exact hreach.awaitSlot oid ha hrp
    | pending =>
      rcases hreach.pendingWhere oid hrp with hm | hm | hm
      · rw [hmb] at hm; cases hm
      · rw [hpk] at hm; cases hm
      · exact nomatch ho.symm.trans (hreach.strandedClosed (List.ne_nil_of_mem hm))

/-! ### what the deterministic scheduler computes is a quiescent state -/

theorem runnableClients_nil {s : Sys} {n start : Nat} (h : runnableClients s n start = []) :
    ∀ oid, start ≤ oid → oid < start + n → clientLabel s oid = none := by
  induction n generalizing start with
  | zero => intro oid h1 h2; omega
  | succ n ih =>
    intro oid h1 h2
    simp only [runnableClients] at h
    split at h
    · cases h
    · rename_i hnone
      by_cases he : oid = start
      · subst he; exact hnone
      · exact ih h oid (by omega) (by omega)

/-- when the scheduler's run queue is empty (`Exec.runnable s = []`, the condition under which `settle` stops) the
    state is quiescent in the sense of the progress theorems -/
theorem runnable_nil_quiescent (s : Sys) (hi : IdsInv s) (h : runnable s = []) : quiescent s := by
  obtain ⟨ha, hc⟩ := List.append_eq_nil_iff.mp h
  refine ⟨?_, fun oid => ?_⟩
  · cases hl : actorLabel s with
    | none => rfl
    | some l => rw [hl] at ha; cases ha
  · by_cases hlt : oid < s.nextOid
    · exact runnableClients_nil hc oid (Nat.zero_le _) (by omega)
    · simp [clientLabel, hi.clientNone oid (Nat.le_of_not_lt hlt)]

end Rsactor.Model
