/- C01/C02 core: the mailbox is the not-yet-taken suffix of the acceptance log, and handler starts
   are exactly the envelopes of the taken prefix, in order. -/
import Rsactor.Inv.Step
import Rsactor.Monitor

namespace Rsactor.Model
open Rsactor.Monitor

def envIds (l : List Item) : List Nat := l.filterMap fun | .env m _ => some m | _ => none

def FifoInv (s : Sys) : Prop :=
  s.taken ≤ s.accepted.length ∧
  (s.rxOpen = true → s.mbox = s.accepted.drop s.taken) ∧
  (s.rxOpen = false → s.mbox = []) ∧
  startedMids s.ev = envIds (s.accepted.take s.taken)

theorem FifoInv.taken_le {s : Sys} (h : FifoInv s) : s.taken ≤ s.accepted.length := h.1
theorem FifoInv.mbox_open {s : Sys} (h : FifoInv s) : s.rxOpen = true → s.mbox = s.accepted.drop s.taken := h.2.1
theorem FifoInv.mbox_closed {s : Sys} (h : FifoInv s) : s.rxOpen = false → s.mbox = [] := h.2.2.1
theorem FifoInv.started {s : Sys} (h : FifoInv s) : startedMids s.ev = envIds (s.accepted.take s.taken) := h.2.2.2

theorem started_append (a b : List Ev) : startedMids (a ++ b) = startedMids a ++ startedMids b :=
  List.filterMap_append

theorem any_isStart {ev : List Ev} {m : Nat} : ev.any (isStart m) = true ↔ Ev.handlerStart m ∈ ev := by
  refine List.any_eq_true.trans ⟨fun ⟨e, he, hs⟩ => ?_, fun h => ⟨_, h, beq_self_eq_true m⟩⟩
  unfold isStart at hs
  split at hs
  · exact eq_of_beq hs ▸ he
  · cases hs

theorem startedMids_of_not_actor {c : List Ev} (hp : ∀ e ∈ c, e.party ≠ .actor) : startedMids c = [] :=
  List.filterMap_eq_nil_iff.mpr fun e he => by
    have := hp e he
    cases e <;> first | rfl | exact absurd rfl this

theorem FifoInv.log {s : Sys} {c : List Ev} (h : FifoInv s) (hc : startedMids c = []) :
    FifoInv { s with ev := s.ev ++ c } := by
  refine ⟨h.taken_le, h.mbox_open, h.mbox_closed, ?_⟩
  rw [started_append, hc, List.append_nil]
  exact h.started

/-- a step that is not the actor's: what is accepted goes to the end of the mailbox and of the log alike, and only
    while the receiver lives -/
theorem FifoInv.frame {s s' : Sys} (h : FifoInv s) (hf : ActorFrame s s') {its : List Item}
    (ha : s'.accepted = s.accepted ++ its) (hm : s'.mbox = s.mbox ++ its) (ho : its = [] ∨ s.rxOpen = true) :
    FifoInv s' := by
  obtain ⟨h1, h2, h3, h4⟩ := h
  obtain ⟨c, hc, hp⟩ := hf.ev
  have hs := startedMids_of_not_actor hp
  unfold FifoInv
  rw [hc, started_append, hs, List.append_nil, ha, hm, hf.taken, hf.rxOpen, List.take_append_of_le_length h1,
    List.drop_append_of_le_length h1, List.length_append]
  refine ⟨Nat.le_trans h1 (Nat.le_add_right ..), fun hr => by rw [h2 hr], fun hr => ?_, h4⟩
  rcases ho with rfl | ho
  · rw [h3 hr]; rfl
  · rw [ho] at hr; cases hr

/-- the loop dequeues the head of the mailbox; a handler starts exactly if it is an envelope -/
theorem FifoInv.take {s : Sys} {it : Item} {rest : List Item} {c : List Ev} (h : FifoInv s) (hm : s.mbox = it :: rest)
    (hc : startedMids c = envIds [it]) : FifoInv { s with mbox := rest, taken := s.taken + 1, ev := s.ev ++ c } := by
  obtain ⟨_, h2, h3, h4⟩ := h
  have ho : s.rxOpen = true := eq_true_of_ne_false fun hf => by rw [h3 hf] at hm; cases hm
  obtain ⟨ht, hd, hlt⟩ := take_succ_of_drop _ _ _ _ ((h2 ho).symm.trans hm)
  refine ⟨hlt, fun _ => hd.symm, fun hr => Bool.noConfusion (ho.symm.trans hr), ?_⟩
  rw [started_append, h4, hc, ht]
  exact List.filterMap_append.symm

/-- the receivers are dropped: the mailbox is emptied, nothing else in the bookkeeping moves -/
theorem FifoInv.finish {b : Sys} {o : Outcome} {evs : List Ev} (h : FifoInv b) (hn : startedMids evs = []) :
    FifoInv (b.finish o evs) := by
  refine ⟨h.taken_le, nofun, fun _ => rfl, ?_⟩
  rw [finish_ev, started_append, started_append, hn, List.append_nil]
  exact (List.append_nil _).trans h.started

theorem RunStep.fifoInv {b s' : Sys} (h : RunStep b s') (hb : FifoInv b) : FifoInv s' := by
  cases h with
  | wait => exact hb
  | panic => exact .finish hb rfl
  | _ => exact hb.log rfl

theorem FifoInv.step {s s' : Sys} {l : Label} (h : FifoInv s) (st : Step s l s') : FifoInv s' := by
  cases st with
  | client hc =>
    have hf := hc.actorFrame
    cases hc with
    | push _ _ _ ho | pushAsk _ _ _ _ ho => exact h.frame hf (its := [_]) rfl rfl (.inr ho)
    | _ => exact h.frame hf (List.append_nil _).symm (List.append_nil _).symm (.inl rfl)
  | actor ha =>
    cases ha with
    | mailEnv _ _ _ _ hm | mailStopKill _ _ _ hm | mailStop _ _ _ hm => exact h.take hm rfl
    | startErr | startPanic | handlerPanic | stopDone => exact .finish h rfl
    | runAgain _ _ _ hr => exact hr.fifoInv h
    | runFresh _ _ _ hr => exact hr.fifoInv (h.log rfl)
    | termPass | mailEmpty | runDisabled | wake => exact h
    | _ => exact h.log rfl
  | owner hh => cases hh <;> exact h.log rfl
  | gate | advance _ => exact h

theorem Reachable.fifoInv {s : Sys} (h : Reachable s) : FifoInv s := by
  induction h with
  | init => exact ⟨Nat.le_refl _, fun _ => rfl, fun _ => rfl, rfl⟩
  | step _ st ih => exact ih.step st

theorem mem_envIds {l : List Item} {m : Nat} : m ∈ envIds l ↔ ∃ k, Item.env m k ∈ l := by
  refine List.mem_filterMap.trans ⟨fun ⟨it, hit, he⟩ => ?_, fun ⟨k, hk⟩ => ⟨_, hk, rfl⟩⟩
  cases it with
  | env m' k => exact ⟨k, Option.some.inj he ▸ hit⟩
  | stop => cases he

theorem FifoInv.started_iff {s : Sys} (h : FifoInv s) {m : Nat} :
    m ∈ startedMids s.ev ↔ ∃ k j, j < s.taken ∧ s.accepted[j]? = some (.env m k) := by
  rw [h.started, mem_envIds]
  exact exists_congr fun _ => mem_take_iff

theorem FifoInv.head {s : Sys} {it : Item} {rest : List Item} (h : FifoInv s) (ho : s.rxOpen = true)
    (hm : s.mbox = it :: rest) : s.accepted[s.taken]? = some it :=
  (List.getElem?_drop (j := 0)).symm.trans (congrArg (·[0]?) ((h.mbox_open ho).symm.trans hm))

end Rsactor.Model
