/- C08: on_run is polled only with an empty mailbox; Ok(false) disables it for good; Err goes to on_stop. -/
import Rsactor.Inv.Fifo
import Rsactor.Inv.StepFacts

namespace Rsactor.Model
open Rsactor.Monitor

def r8Run (m : C08.R8) (chunk : List Ev) : C08.R8 := chunk.foldl C08.r8Step m

theorem r8_append (ev chunk : List Ev) : C08.r8 (ev ++ chunk) = r8Run (C08.r8 ev) chunk := List.foldl_append ..

structure RunInv (s : Sys) : Prop where
  ok : (C08.r8 s.ev).ok = true
  noPend : (C08.r8 s.ev).pendErr = false
  disabled : (C08.r8 s.ev).disabled = true → s.idleEnabled = false
  emptyAtRun : s.pc = .selRun → s.taken = s.acceptedAtMail ∧ s.acceptedAtMail ≤ s.accepted.length

/-- `m`: the fold over the history; `idle`: the loop still polls on_run -/
structure R8I (m : C08.R8) (idle : Bool) : Prop where
  ok : m.ok = true
  noPend : m.pendErr = false
  disabled : m.disabled = true → idle = false

theorem _root_.Rsactor.Monitor.C08.r8Step_of_not_actor {e : Ev} (h : e.party ≠ .actor) {m : C08.R8} : C08.r8Step m e = m := by
  cases e <;> first | rfl | exact absurd rfl h

/-- With no error seen and none pending the fold state is `⟨d, false, true⟩`.  It stays there under every event but a
    poll of on_run, its Ok(false), and its Err unless on_stop(false) follows at once: `hc` is a computation. -/
theorem r8Run_quiet {c : List Ev} (hc : ∀ d, r8Run ⟨d, false, true⟩ c = ⟨d, false, true⟩) {m : C08.R8}
    (ho : m.ok = true) (hp : m.pendErr = false) : r8Run m c = m := by
  obtain ⟨d, p, o⟩ := m
  cases ho; cases hp
  exact hc d

theorem R8I.log {m : C08.R8} {idle : Bool} {c : List Ev} (h : R8I m idle)
    (hc : ∀ d, r8Run ⟨d, false, true⟩ c = ⟨d, false, true⟩) : R8I (r8Run m c) idle := by
  rw [r8Run_quiet hc h.ok h.noPend]; exact h

/-- a fresh on_run future is polled: the loop does that only while on_run is enabled -/
theorem R8I.poll {m : C08.R8} {idle : Bool} {i : Nat} (h : R8I m idle) (hi : idle = true) :
    R8I (r8Run m [.runPoll i]) idle := by
  obtain ⟨d, p, o⟩ := m
  obtain ⟨ho, hp, hd⟩ := h
  cases ho; cases hp
  cases d with
  | false => exact ⟨rfl, rfl, nofun⟩
  | true => exact nomatch (hd rfl).symm.trans hi

theorem R8I.disable {m : C08.R8} {idle : Bool} {i : Nat} (h : R8I m idle) :
    R8I (r8Run m [.runEnd i .disable]) false := by
  obtain ⟨d, p, o⟩ := m
  obtain ⟨ho, hp, _⟩ := h
  cases ho; cases hp
  exact ⟨rfl, rfl, fun _ => rfl⟩

theorem RunInv.r8i {s : Sys} (h : RunInv s) : R8I (C08.r8 s.ev) s.idleEnabled := ⟨h.ok, h.noPend, h.disabled⟩

theorem RunInv.of_r8i {s : Sys} (h : R8I (C08.r8 s.ev) s.idleEnabled)
    (he : s.pc = .selRun → s.taken = s.acceptedAtMail ∧ s.acceptedAtMail ≤ s.accepted.length) : RunInv s :=
  ⟨h.ok, h.noPend, h.disabled, he⟩

theorem RunInv.of_log {s s' : Sys} {c : List Ev} (hev : s'.ev = s.ev ++ c)
    (h : R8I (r8Run (C08.r8 s.ev) c) s'.idleEnabled)
    (he : s'.pc = .selRun → s'.taken = s'.acceptedAtMail ∧ s'.acceptedAtMail ≤ s'.accepted.length) : RunInv s' :=
  .of_r8i (by rw [hev, r8_append]; exact h) he

/-- the other parties log nothing the fold reads, and can only add to the acceptance log -/
theorem RunInv.frame {s s' : Sys} (h : RunInv s) (hf : ActorFrame s s') (ha : s.accepted.length ≤ s'.accepted.length) :
    RunInv s' := by
  have hm : C08.r8 s'.ev = C08.r8 s.ev := hf.ev.foldl_eq fun e he => C08.r8Step_of_not_actor he
  refine .of_r8i (by rw [hm, hf.idleEnabled]; exact h.r8i) ?_
  rw [hf.pc, hf.taken, hf.acceptedAtMail]
  exact fun hp => ⟨(h.emptyAtRun hp).1, Nat.le_trans (h.emptyAtRun hp).2 ha⟩

theorem RunInv_finish (b : Sys) (o : Outcome) (evs : List Ev) (h : RunInv b)
    (hk : ∀ m : C08.R8, m.ok = true → m.pendErr = false →
      (r8Run m evs).ok = true ∧ (r8Run m evs).pendErr = false ∧ (r8Run m evs).disabled = m.disabled) :
    RunInv (b.finish o evs) := by
  obtain ⟨ho, hp, hd⟩ := hk _ h.ok h.noPend
  refine .of_log (c := evs ++ [.joined o]) (finish_ev_assoc ..) ?_ nofun
  rw [r8Run, List.foldl_append]
  exact ⟨ho, hp, fun hd' => h.disabled (hd ▸ hd')⟩

theorem RunInv.finish {b : Sys} {o : Outcome} {evs : List Ev} (h : RunInv b)
    (hc : ∀ d, r8Run ⟨d, false, true⟩ evs = ⟨d, false, true⟩) : RunInv (b.finish o evs) :=
  RunInv_finish b o evs h fun _ ho hp => by rw [r8Run_quiet hc ho hp]; exact ⟨ho, hp, rfl⟩

theorem RunStep.runInv {b s' : Sys} (h : RunStep b s') (hb : RunInv b) : RunInv s' := by
  cases h with
  | wait => exact .of_r8i hb.r8i nofun
  | cont | err => exact .of_log rfl (hb.r8i.log fun _ => rfl) nofun
  | disable => exact .of_log rfl hb.r8i.disable nofun
  | panic => exact .finish (.of_r8i hb.r8i hb.emptyAtRun) fun _ => rfl

theorem Reachable.runInv {s : Sys} (h : Reachable s) : RunInv s := by
  induction h with
  | init => exact ⟨rfl, rfl, nofun, nofun⟩
  | @step s s' l hr st ih =>
    rcases st.actor_or_frame with ha | hf
    · cases ha with
      | mailEmpty hpc hmb =>
        -- the only way into `selRun`: the mailbox, the untaken rest of the acceptance log, was seen empty
        have hd := (hr.fifoInv.mbox_open (hr.open_of_live (hpc ▸ nofun))).symm.trans hmb
        exact .of_r8i ih.r8i fun _ =>
          ⟨Nat.le_antisymm hr.fifoInv.taken_le (List.drop_eq_nil_iff.mp hd), Nat.le_refl _⟩
      | runAgain _ _ _ hrs => exact hrs.runInv ih
      | runFresh _ hi _ hrs => exact hrs.runInv (.of_log rfl (ih.r8i.poll hi) ih.emptyAtRun)
      | termPass | runDisabled | wake => exact .of_r8i ih.r8i nofun
      | startErr | startPanic | handlerPanic | stopDone => exact .finish (.of_r8i ih.r8i ih.emptyAtRun) fun _ => rfl
      | _ => exact .of_log rfl (ih.r8i.log fun _ => rfl) nofun
    · obtain ⟨suffix, hs⟩ := st.accepted_grows
      exact ih.frame hf (by rw [hs, List.length_append]; exact Nat.le_add_right ..)

end Rsactor.Model
