/- Once the loop has begun to stop (on_stop is running or the task has ended) nothing is dequeued any more:
   `taken` is frozen.  With `FifoInv` this gives the call-level statements of C01/C02 about stop(). -/
import Rsactor.Inv.Fifo
import Rsactor.Inv.StepFacts

namespace Rsactor.Model

/-- the loop has left its `select!` for good: on_stop is running, or the task has ended -/
def isStopping : Pc → Bool
  | .stopping _ _ _ => true
  | .ended => true
  | _ => false

/-- the only step that moves the dequeue pointer is the mailbox poll taking the head of the mailbox (the last conjunct,
    a dequeued stop marker leaves the loop stopping, is what `Reachable.marker` needs) -/
theorem Step.taken_changes {s s' : Sys} {l : Label} (st : Step s l s') :
    s'.taken = s.taken ∨
    (s'.taken = s.taken + 1 ∧ s.pc = .selMail ∧ s'.accepted = s.accepted ∧
      ∃ it rest, s.mbox = it :: rest ∧ (∀ o, it = Item.stop o → isStopping s'.pc = true)) := by
  rcases st.actor_or_frame with ha | hf
  · cases ha with
    | mailEnv _ _ _ hpc hm => exact .inr ⟨rfl, hpc, rfl, _, _, hm, nofun⟩
    | mailStopKill _ _ hpc hm | mailStop _ _ hpc hm => exact .inr ⟨rfl, hpc, rfl, _, _, hm, fun _ _ => rfl⟩
    | runAgain _ _ _ hr | runFresh _ _ _ hr => exact .inl (by rw [hr.writes])
    | _ => exact .inl rfl
  · exact .inl hf.taken

theorem Step.taken_frozen {s s' : Sys} {l : Label} (st : Step s l s') (hp : isStopping s.pc = true) :
    s'.taken = s.taken ∧ isStopping s'.pc = true := by
  rcases st.actor_or_frame with ha | hf
  · cases ha with
    | stopDone => exact ⟨rfl, rfl⟩
    -- the pc guard of every other constructor contradicts `hp`
    | _ => simp_all [isStopping]
  · exact ⟨hf.taken, hf.pc ▸ hp⟩

theorem taken_frozen_run {s s' : Sys} {ls : List Label} (hr : run? s ls = some s') (hp : isStopping s.pc = true) :
    s'.taken = s.taken ∧ isStopping s'.pc = true :=
  run_inv (P := fun t => t.taken = s.taken ∧ isStopping t.pc = true)
    (fun h st => ⟨(st.taken_frozen h.2).1.trans h.1, (st.taken_frozen h.2).2⟩) ⟨rfl, hp⟩ hr

theorem taken_mono (s s' : Sys) (l : Label) (hs : step? s l = some s') : s.taken ≤ s'.taken := by
  rcases (Step.of_step? hs).taken_changes with h | ⟨h, _⟩ <;> omega

/-- the dequeue pointer never passes a stop marker: it is either at or before it, or just behind it with
    the loop stopping -/
theorem Reachable.marker {s : Sys} (h : Reachable s) {k o : Nat} (hk : s.accepted[k]? = some (Item.stop o)) :
    s.taken ≤ k ∨ (s.taken = k + 1 ∧ isStopping s.pc = true) := by
  induction h generalizing k o with
  | init => simp [Model.init] at hk
  | @step s s' _ hr st ih =>
    have hle := hr.fifoInv.taken_le
    rcases st.taken_changes with ht | ⟨ht, hpc, hacc, it, rest, hm, hstop⟩
    · -- a marker beyond the old log is beyond the pointer; for one inside it nothing moved
      obtain ⟨suf, ha⟩ := st.accepted_grows
      rw [ha] at hk
      by_cases hlt : k < s.accepted.length
      · rw [List.getElem?_append_left hlt] at hk
        exact ht ▸ (ih hk).imp_right fun ⟨h1, h2⟩ => ⟨h1, (st.taken_frozen h2).2⟩
      · exact .inl (by omega)
    · -- the head of the mailbox is the log entry at `taken`
      have hat := hr.fifoInv.head (hr.open_of_live (by rw [hpc]; nofun)) hm
      rw [hacc] at hk
      rcases ih hk with h1 | ⟨_, h2⟩
      · rcases Nat.lt_or_eq_of_le h1 with hlt | heq
        · exact .inl (by omega)
        · subst heq
          exact .inr ⟨ht, hstop o (Option.some.inj (hat.symm.trans hk))⟩
      · rw [hpc] at h2; cases h2

end Rsactor.Model
