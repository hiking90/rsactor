/- A stop() that is reported as `Ok` either put its marker into the channel (accepted, or - in the window after the
   receivers were dropped - lying in the closed channel) or found the mailbox already closed, i.e. the actor's task had
   finished.  Model-level statement behind the stop() clause of the trace monitor `C09.okMeansAccepted`. -/
import Rsactor.Inv.OkAcc

namespace Rsactor.Model

def StopOkInv (s : Sys) : Prop :=
  ∀ oid a, Ev.ret oid .ok a ∈ s.ev → (s.spec oid).kind = .stop →
    (∃ i, Ev.accepted oid i ∈ s.ev) ∨ Item.stop oid ∈ s.stranded ∨ hasJoined s.ev

theorem Reachable.stopOkInv {s : Sys} (h : Reachable s) : StopOkInv s := fun oid a hm hk =>
  (h.okRet oid a _ hm (congrArg (opItem oid) hk)).imp_right (Or.imp_right And.right)

theorem stop_ok_run (cap : Nat) (sc : Script) (ls : List Label) (s : Sys)
    (hr : run? (init cap sc) ls = some s) : StopOkInv s := (Reachable.of_run hr).stopOkInv

end Rsactor.Model
