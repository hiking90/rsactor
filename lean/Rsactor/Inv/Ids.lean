/- Identity bookkeeping: operation ids are fresh, a waiter's item carries its operation id, an item is
   accepted at most once, and nothing that is still waiting has been accepted. -/
import Rsactor.Inv.Step

namespace Rsactor.Model

/-- what identifies a waiter (flags `granted` / `acq` change, these do not) -/
def wkeys (ws : List Waiter) : List (Nat × Item) := ws.map fun w => (w.oid, w.item)

def accOids (s : Sys) : List Nat := s.accepted.map Item.oid

def keysOf (s : Sys) : List Nat := (wkeys s.waiters).map (·.1)

theorem mem_wkeys {w : Waiter} {ws : List Waiter} (hw : w ∈ ws) : (w.oid, w.item) ∈ wkeys ws :=
  List.mem_map_of_mem hw

theorem wkeys_grantFirst (ws : List Waiter) : wkeys (grantFirst ws) = wkeys ws := by
  induction ws with
  | nil => rfl
  | cons w ws ih =>
    rw [grantFirst]
    split
    · exact congrArg (_ :: ·) ih
    · rfl

theorem wkeys_map_acq (ws : List Waiter) (w : Waiter) :
    wkeys (ws.map (fun x => if x = w then { x with acq := true } else x)) = wkeys ws :=
  List.map_map.trans (List.map_congr_left fun x _ => by dsimp only [Function.comp]; split <;> rfl)

theorem wkeys_erase_sublist (ws : List Waiter) (w : Waiter) : (wkeys (ws.erase w)).Sublist (wkeys ws) :=
  List.Sublist.map _ List.erase_sublist

theorem wkeys_append (a b : List Waiter) : wkeys (a ++ b) = wkeys a ++ wkeys b := List.map_append

/-- with distinct operation ids, the waiters that stay are not the one that goes -/
theorem erase_key_ne {ws : List Waiter} (hnd : ((wkeys ws).map (·.1)).Nodup) {w : Waiter} (hw : w ∈ ws)
    {p : Nat × Item} (hp : p ∈ wkeys (ws.erase w)) : p.1 ≠ w.oid := by
  have := (((List.perm_cons_erase hw).map _).map _).nodup_iff.mp hnd
  exact fun he => (List.nodup_cons.mp this).1 (show w.oid ∈ _ from he ▸ List.mem_map_of_mem (f := (·.1)) hp)

theorem oid_inj {ws : List Waiter} (hnd : ((wkeys ws).map (·.1)).Nodup) {a b : Waiter} (ha : a ∈ ws) (hb : b ∈ ws)
    (he : a.oid = b.oid) : a = b :=
  Decidable.byContradiction fun hne =>
    erase_key_ne hnd ha (mem_wkeys ((List.mem_erase_of_ne (Ne.symm hne)).mpr hb)) he.symm

theorem mem_keys {ws : List Waiter} {o : Nat} : o ∈ (wkeys ws).map (·.1) ↔ ∃ w ∈ ws, w.oid = o := by
  simp [wkeys]

theorem mem_keys_erase {ws : List Waiter} {w : Waiter} {o : Nat} (ho : o ≠ w.oid) :
    o ∈ (wkeys (ws.erase w)).map (·.1) ↔ o ∈ (wkeys ws).map (·.1) := by
  refine ⟨fun h => ((wkeys_erase_sublist ws w).map _).subset h, fun h => ?_⟩
  obtain ⟨x, hx, rfl⟩ := mem_keys.mp h
  exact mem_keys.mpr ⟨x, (List.mem_erase_of_ne fun he => ho (congrArg Waiter.oid he)).mpr hx, rfl⟩

/-- the scheduler finds the sender of an operation by its id -/
theorem find?_oid {ws : List Waiter} (hnd : ((wkeys ws).map (·.1)).Nodup) {w : Waiter} (hw : w ∈ ws) :
    ws.find? (fun x => decide (x.oid = w.oid)) = some w := by
  obtain ⟨w', hf⟩ := find?_of_mem (p := fun x => x.oid = w.oid) hw rfl
  obtain ⟨hm, hq⟩ := mem_of_find? hf
  exact hf.trans (congrArg some (oid_inj hnd hm hw hq))

/-- operation ids are allocated in order and never reused: everything accepted, queued or returned carries an id below
    `nextOid` (so `issue`, which writes `spec`, `deadline` and `client` at `nextOid`, touches no operation that
    exists: `retLt`, `clientNone`), an id is accepted at most once and queued at most once, never both, and a queued
    sender carries the item made for its operation -/
structure IdsInv (s : Sys) : Prop where
  accLt : ∀ it ∈ s.accepted, it.oid < s.nextOid
  accNodup : (accOids s).Nodup
  wNodup : ((wkeys s.waiters).map (·.1)).Nodup
  wOk : ∀ p ∈ wkeys s.waiters, p.2.oid = p.1 ∧ p.1 < s.nextOid ∧ p.1 ∉ accOids s ∧
          opItem p.1 (s.spec p.1).kind = some p.2
  retLt : ∀ oid r a, Ev.ret oid r a ∈ s.ev → oid < s.nextOid
  clientNone : ∀ oid, s.nextOid ≤ oid → s.client oid = .none

theorem IdsInv.waiter {s : Sys} {w : Waiter} (h : IdsInv s) (hw : w ∈ s.waiters) :
    w.item.oid = w.oid ∧ w.oid < s.nextOid ∧ w.oid ∉ accOids s ∧
      opItem w.oid (s.spec w.oid).kind = some w.item :=
  h.wOk _ (mem_wkeys hw)

theorem IdsInv.acc_inj {s : Sys} (h : IdsInv s) {i j : Nat} {a b : Item} (hi : s.accepted[i]? = some a)
    (hj : s.accepted[j]? = some b) (he : a.oid = b.oid) : i = j :=
  (List.getElem?_inj (by rw [accOids, List.length_map]; exact (List.getElem?_eq_some_iff.mp hi).1) h.accNodup).mp
    (by rw [accOids, List.getElem?_map, List.getElem?_map, hi, hj]; exact congrArg some he)

theorem IdsInv.item_lt {s : Sys} {w : Waiter} {it : Item} (h : IdsInv s) (hw : w ∈ s.waiters) (hit : w.item = it) :
    it.oid < s.nextOid :=
  hit ▸ (h.waiter hw).1 ▸ (h.waiter hw).2.1

theorem IdsInv.item_oid {s : Sys} {w : Waiter} {it : Item} (h : IdsInv s) (hw : w ∈ s.waiters) (hit : w.item = it) :
    it.oid = w.oid :=
  hit ▸ (h.waiter hw).1

theorem IdsInv.client_lt {s : Sys} {oid : Nat} {c : CSt} (h : IdsInv s) (hc : s.client oid = c) (hn : c ≠ .none) :
    oid < s.nextOid :=
  Nat.lt_of_not_le fun hle => hn (hc ▸ h.clientNone oid hle)

/-- the invariant reads `accepted`, the keys of `waiters`, `spec`, `nextOid`, `client` and the `ret` events -/
theorem IdsInv.congr {s s' : Sys} (h : IdsInv s) (ha : s'.accepted = s.accepted)
    (hw : wkeys s'.waiters = wkeys s.waiters) (hsp : s'.spec = s.spec) (hno : s'.nextOid = s.nextOid)
    (hc : s'.client = s.client) (hev : ∀ oid r a, Ev.ret oid r a ∈ s'.ev → Ev.ret oid r a ∈ s.ev) :
    IdsInv s' := by
  have hao : accOids s' = accOids s := congrArg (·.map Item.oid) ha
  exact ⟨by rw [ha, hno]; exact h.accLt, by rw [hao]; exact h.accNodup, by rw [hw]; exact h.wNodup,
    by rw [hw, hao, hsp, hno]; exact h.wOk, fun o r a hm => hno ▸ h.retLt o r a (hev o r a hm),
    by rw [hno, hc]; exact h.clientNone⟩

theorem IdsInv.frame {s s' : Sys} (h : IdsInv s) (hf : ClientFrame s s') (hw : wkeys s'.waiters = wkeys s.waiters) :
    IdsInv s' :=
  h.congr hf.accepted hw hf.spec hf.nextOid hf.client fun _ _ _ hm => hf.ev.mem rfl hm

theorem IdsInv.setF_none {s : Sys} {oid : Nat} (h : IdsInv s) (hlt : oid < s.nextOid) (c : CSt) (o : Nat)
    (ho : s.nextOid ≤ o) : setF s.client oid c o = .none :=
  (setF_ne (by omega)).trans (h.clientNone o ho)

theorem IdsInv.complete {b : Sys} {oid : Nat} {r : Res} {why : Option Reason} (h : IdsInv b) (hlt : oid < b.nextOid) :
    IdsInv (b.complete oid r why) := by
  refine ⟨h.accLt, h.accNodup, h.wNodup, h.wOk, fun o r' a hm => ?_, h.setF_none hlt _⟩
  exact (mem_complete_ev hm).elim (h.retLt o r' a) fun he => he.1 ▸ hlt

theorem IdsInv.await {b : Sys} {mid : Nat} (h : IdsInv b) (hlt : mid < b.nextOid) :
    IdsInv { b with client := setF b.client mid .awaiting, reply := setF b.reply mid .pending } :=
  ⟨h.accLt, h.accNodup, h.wNodup, h.wOk, h.retLt, h.setF_none hlt _⟩

/-- the operation id is allocated and `issued` is logged (`t`: a kill also writes the termination slot; for the other
    operations the update at `t := s.termSlot` is the identity, which unification sees by eta) -/
theorem IdsInv.issue {s : Sys} {op : OpSpec} {t : Bool} (h : IdsInv s) :
    IdsInv { issueBase s op with termSlot := t } := by
  refine ⟨fun it hi => Nat.lt_succ_of_lt (h.accLt it hi), h.accNodup, h.wNodup, fun p hp => ?_,
    fun oid r a hm => (List.mem_append.mp hm).elim (fun hm => Nat.lt_succ_of_lt (h.retLt oid r a hm))
      fun hm => (nomatch List.mem_singleton.mp hm),
    fun o ho => h.clientNone o (Nat.le_of_succ_le ho)⟩
  obtain ⟨a, b, c, d⟩ := h.wOk p hp
  exact ⟨a, Nat.lt_succ_of_lt b, c,
    (congrArg (fun o : OpSpec => opItem p.1 o.kind) (setF_ne (Nat.ne_of_lt b))).trans d⟩

theorem IdsInv.fresh {s : Sys} (h : IdsInv s) : s.nextOid ∉ accOids s ∧ s.nextOid ∉ keysOf s :=
  ⟨fun hm => let ⟨i, hi, he⟩ := List.mem_map.mp hm; Nat.lt_irrefl _ (he ▸ h.accLt i hi),
   fun hm => let ⟨p, hp, he⟩ := List.mem_map.mp hm; Nat.lt_irrefl _ (he ▸ (h.wOk p hp).2.1)⟩

theorem IdsInv.enqueue {s : Sys} {op : OpSpec} {it : Item} {g a : Bool} (h : IdsInv s)
    (hit : opItem s.nextOid op.kind = some it) :
    IdsInv { issueBase s op with waiters := s.waiters ++ [⟨s.nextOid, it, g, a⟩],
                                 client := setF s.client s.nextOid .waiting } := by
  have hb := h.issue (op := op) (t := s.termSlot)
  refine ⟨hb.accLt, hb.accNodup, ?_, fun p hp => ?_, hb.retLt, fun o ho => ?_⟩
  · simp only [wkeys_append, List.map_append]
    exact nodup_snoc h.wNodup h.fresh.2
  · rw [wkeys_append] at hp
    rcases List.mem_append.mp hp with hp | hp
    · exact hb.wOk p hp
    · cases List.mem_singleton.mp hp
      exact ⟨opItem_oid hit, Nat.lt_succ_self _, h.fresh.1,
        (congrArg (fun o : OpSpec => opItem _ o.kind) (setF_self ..)).trans hit⟩
  · exact (setF_ne (Nat.ne_of_gt ho)).trans (h.clientNone o (Nat.le_of_succ_le ho))

theorem IdsInv.erased_notin {s : Sys} {w : Waiter} (h : IdsInv s) (hw : w ∈ s.waiters) :
    w.oid ∉ accOids s ∧ w.oid ∉ keysOf { s with waiters := s.waiters.erase w } :=
  ⟨(h.waiter hw).2.2.1, fun hm => let ⟨_, hp, he⟩ := List.mem_map.mp hm; erase_key_ne h.wNodup hw hp he⟩

/-- a waiter goes (`st`: its item may be left stranded) -/
theorem IdsInv.erase {s : Sys} (h : IdsInv s) (w : Waiter) (st : List Item) :
    IdsInv { s with waiters := s.waiters.erase w, stranded := st } :=
  ⟨h.accLt, h.accNodup, (List.Sublist.map _ (wkeys_erase_sublist s.waiters w)).nodup h.wNodup,
   fun p hp => h.wOk p ((wkeys_erase_sublist s.waiters w).subset hp), h.retLt, h.clientNone⟩

theorem IdsInv.accept {s : Sys} {w : Waiter} {it : Item} (h : IdsInv s) (hw : w ∈ s.waiters) (hit : w.item = it) :
    IdsInv { s with waiters := s.waiters.erase w, mbox := s.mbox ++ [it], accepted := s.accepted ++ [it],
                    ev := s.ev ++ [Ev.accepted it.oid s.accepted.length] } := by
  subst hit
  obtain ⟨k1, _, k3, _⟩ := h.waiter hw
  have he := h.erase w s.stranded
  refine ⟨fun it hi => ?_, ?_, he.wNodup, fun p hp => ?_,
    fun oid r a hm => (List.mem_append.mp hm).elim (h.retLt oid r a) fun hm => (nomatch List.mem_singleton.mp hm),
    h.clientNone⟩
  · rcases List.mem_append.mp hi with hi | hi
    · exact h.accLt it hi
    · cases List.mem_singleton.mp hi; exact h.item_lt hw rfl
  · rw [accOids, List.map_append]
    exact nodup_snoc h.accNodup fun hx => k3 (k1 ▸ hx)
  · obtain ⟨a, b, c, d⟩ := he.wOk p hp
    refine ⟨a, b, fun hm => ?_, d⟩
    rw [accOids, List.map_append] at hm
    rcases List.mem_append.mp hm with hm | hm
    · exact c hm
    · exact erase_key_ne h.wNodup hw hp ((List.mem_singleton.mp hm).trans k1)

/-- only the dequeues touch the waiters: they hand the freed slot to the first in line -/
theorem ActorStep.wkeys {s s' : Sys} {l : Label} (h : ActorStep s l s') : wkeys s'.waiters = wkeys s.waiters := by
  cases h with
  | mailEnv | mailStopKill | mailStop => exact wkeys_grantFirst _
  | runAgain _ _ _ hr | runFresh _ _ _ hr => rw [hr.writes]
  | _ => rfl

theorem IdsInv.step {s s' : Sys} {l : Label} (h : IdsInv s) (st : Step s l s') : IdsInv s' := by
  cases st with
  | client hc =>
    cases hc with
    | kill | sendClosed | stopClosed => exact IdsInv.complete h.issue (Nat.lt_succ_self _)
    | enqueue _ _ _ _ _ hit => exact h.enqueue hit
    | wakeClosed w _ _ hw | wakeClosedStop w _ hw | timeoutSend w _ hw =>
      exact IdsInv.complete (h.erase w _) (h.waiter hw).2.1
    | wakeGranted => exact h.congr rfl (wkeys_map_acq ..) rfl rfl rfl fun _ _ _ => id
    | push _ hw => exact IdsInv.complete (h.accept hw rfl) (h.item_lt hw rfl)
    | pushAsk _ _ hw _ _ hi => exact IdsInv.await (h.accept hw hi) (h.item_lt hw hi)
    | strand w hw => exact IdsInv.complete (h.erase w _) (h.item_lt hw rfl)
    | strandAsk w _ hw _ _ hi => exact IdsInv.await (h.erase w _) (h.item_lt hw hi)
    | timeoutAsk _ _ _ _ hc | reply _ hc | replyLost _ hc => exact IdsInv.complete h (h.client_lt hc nofun)
  | actor ha => exact h.frame ha.clientFrame ha.wkeys
  | owner hh => exact h.frame hh.clientFrame (by cases hh <;> rfl)
  | gate | advance => exact h.congr rfl rfl rfl rfl rfl fun _ _ _ => id

theorem Reachable.idsInv {s : Sys} (h : Reachable s) : IdsInv s := by
  induction h with
  | init => exact ⟨nofun, .nil, .nil, nofun, nofun, fun _ _ => rfl⟩
  | step _ st ih => exact ih.step st

/-! ### only an ask waits for a reply -/

theorem askKind_set {c : Nat → CSt} {sp sp' : Nat → OpSpec} {n : Nat} {cst : CSt}
    (h : ∀ o, c o = .awaiting → (sp o).kind = .ask) (hsp : ∀ o, o ≠ n → sp' o = sp o)
    (hk : cst = .awaiting → (sp' n).kind = .ask) (o : Nat) (ho : setF c n cst o = .awaiting) :
    (sp' o).kind = .ask := by
  unfold setF at ho
  split at ho
  · rename_i he; exact he ▸ hk ho
  · rename_i hne; exact hsp o hne ▸ h o ho

theorem Reachable.askKind {s : Sys} (h : Reachable s) :
    ∀ oid, s.client oid = .awaiting → (s.spec oid).kind = .ask := by
  induction h with
  | init => exact nofun
  | @step s s' l hr st ih =>
    rcases st.client_or_frame with hc | hf
    · cases hc with
      | kill | sendClosed | stopClosed | enqueue => exact askKind_set ih (fun _ => setF_ne) nofun
      | pushAsk w _ hw _ _ hi | strandAsk w _ hw _ _ hi =>
        -- the item is the one made for the waiter's operation, from its kind
        refine askKind_set ih (fun _ _ => rfl) fun _ => ?_
        obtain ⟨k1, _, _, k4⟩ := hr.idsInv.waiter hw
        rw [hi] at k1 k4
        cases k1
        exact opItem_ask k4
      | wakeGranted => exact ih
      | _ => exact askKind_set ih (fun _ _ => rfl) nofun
    · rw [hf.client, hf.spec]; exact ih

end Rsactor.Model
