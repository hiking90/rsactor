/-
  `Exec`: a deterministic label-chooser over `Model.step?` that mirrors "let the paused
  single-thread runtime run until every task is blocked".  It is a scheduling *policy*: every
  state it produces is a `run?` of the labels it chose (`settle_is_run`), so every theorem proved
  for all label lists holds for everything the driver prints.
-/
import Rsactor.Inv.Helpers

namespace Rsactor.Exec
open Rsactor.Model

def blockedAtGate (s : Sys) : Bool :=
  s.gatePermits == 0 &&
  (match s.pc with
   | .starting => true
   | .inHandler _ _ => true
   | .stopping _ _ _ => true
   | .parked => s.runLive
   | _ => false)

def actorLabel (s : Sys) : Option Label :=
  match s.pc with
  | .starting => if 0 < s.gatePermits then some .startDone else none
  | .selTerm => some .pollTerm
  | .selMail => some .pollMail
  | .selRun => some .pollRun
  | .parked =>
    if s.termSlot || s.strongCount == 0 || !s.mbox.isEmpty || (s.runLive && 0 < s.gatePermits)
    then some .wake else none
  | .inHandler _ _ => if 0 < s.gatePermits then some .handlerDone else none
  | .stopping _ _ _ => if 0 < s.gatePermits then some .stopDone else none
  | .ended => none

def clientLabel (s : Sys) (oid : Nat) : Option Label :=
  match s.client oid with
  | .waiting =>
    match s.waiters.find? (fun w => w.oid = oid) with
    | some w =>
      if w.acq then some (.push oid)
      else if !s.rxOpen || w.granted then some (.grantWake oid)
      else none
    | none => none
  | .awaiting =>
    match s.reply oid with
    | .sent => some (.recvReply oid)
    | .dropped => some (.recvReply oid)
    | _ => if !s.rxOpen && Extracted.ask_wait_watches_closed then some (.recvReply oid) else none
  | _ => none

/-- a task of the runtime: `none` = the actor's lifecycle task, `some oid` = a client operation -/
abbrev Task := Option Nat

def taskLabel (s : Sys) : Task → Option Label
  | none => actorLabel s
  | some oid => clientLabel s oid

def runnableClients (s : Sys) : Nat → Nat → List Task
  | 0, _ => []
  | n+1, oid =>
    match clientLabel s oid with
    | some _ => some oid :: runnableClients s n (oid + 1)
    | none => runnableClients s n (oid + 1)

def runnable (s : Sys) : List Task :=
  (match actorLabel s with | some _ => [none] | none => []) ++ runnableClients s s.nextOid 0

/-- Tokio's current-thread scheduler: the running task keeps going until it blocks; tasks it wakes
    are appended to a FIFO run queue; then the head of the queue runs. -/
def settle : Nat → Sys → Option Task → List Task → List Label → Sys × List Label
  | 0, s, _, _, acc => (s, acc.reverse)
  | n+1, s, cur, queue, acc =>
    let go (t : Task) (l : Label) (queue : List Task) : Sys × List Label :=
      match step? s l with
      | none => (s, acc.reverse)
      | some s' =>
        let woken := (runnable s').filter (fun x => x != t && !queue.contains x)
        settle n s' (some t) (queue ++ woken) (l :: acc)
    match cur.bind (fun t => (taskLabel s t).map (fun l => (t, l))) with
    | some (t, l) => go t l queue
    | none =>
      match queue with
      | t :: rest =>
        match taskLabel s t with
        | some l => go t l rest
        | none => settle n s none rest acc
      | [] =>
        match runnable s with
        | t :: _ =>
          match taskLabel s t with
          | some l => go t l []
          | none => (s, acc.reverse)
        | [] => (s, acc.reverse)

theorem run_snoc {s0 s s' : Sys} {acc : List Label} {l : Label}
    (h : run? s0 acc.reverse = some s) (hs : step? s l = some s') :
    run? s0 (l :: acc).reverse = some s' := by
  rw [List.reverse_cons, run_append, h, Option.bind_some, run?, hs]; rfl

theorem settle_is_run (n : Nat) (s : Sys) (cur : Option Task) (q : List Task) (acc : List Label)
    (s0 : Sys) (h : run? s0 acc.reverse = some s) :
    run? s0 (settle n s cur q acc).2 = some (settle n s cur q acc).1 := by
  induction n generalizing s cur q acc with
  | zero => exact h
  | succ n ih =>
    unfold settle
    extract_lets go
    -- the chosen label is taken and appended, or it does not apply and the run so far is returned
    have hgo (t l q') : run? s0 (go t l q').2 = some (go t l q').1 := by
      simp only [go]
      split
      · exact h
      · exact ih _ _ _ _ (run_snoc h ‹_›)
    split
    · exact hgo ..
    · split
      · split
        · exact hgo ..
        · exact ih _ _ _ _ h
      · split
        · split
          · exact hgo ..
          · exact h
        · exact h

def fuel : Nat := 100000

/-- earliest deadline ≤ `target` among operations still in progress -/
def nextDeadline (s : Sys) (target : Nat) : Nat → Nat → Option Nat → Option Nat
  | 0, _, acc => acc
  | n+1, oid, acc =>
    let acc :=
      match s.client oid, s.deadline oid with
      | .waiting, some d | .awaiting, some d =>
        if d ≤ target then
          match acc with
          | some a => some (Nat.min a d)
          | none => some d
        else acc
      | _, _ => acc
    nextDeadline s target n (oid + 1) acc

def fireAt (d : Nat) : Nat → Nat → Sys → Sys
  | 0, _, s => s
  | n+1, oid, s =>
    let s :=
      match s.client oid, s.deadline oid with
      | .waiting, some d' | .awaiting, some d' =>
        if d' = d then
          match step? s (.timeoutFire oid) with
          | some s' => (settle fuel s' (some (some oid)) [] []).1
          | none => s
        else s
      | _, _ => s
    fireAt d n (oid + 1) s

def clockTo (s : Sys) (t : Nat) : Sys :=
  match step? s (.advance (t - s.clock)) with
  | some s' => s'
  | none => s

/-- advance the virtual clock to `target`, firing the timers on the way in deadline order -/
def advanceTo (target : Nat) : Nat → Sys → Sys
  | 0, s => clockTo s target
  | n+1, s =>
    match nextDeadline s target s.nextOid 0 none with
    | some d =>
      let s := clockTo s d
      let s := fireAt d s.nextOid 0 s
      advanceTo target n s
    | none => clockTo s target

/-- the driver's quiescence wait: `sleep` until the next multiple of `tick` -/
def tick : Nat := 10

def afterOp (s : Sys) : Sys :=
  let s := (settle fuel s none [] []).1
  advanceTo (s.clock + tick) (s.nextOid + 1) s

end Rsactor.Exec
