/-
  The wait-for graph walk: `Extracted.has_path` (translated from src/lib.rs on every run) decides
  reachability in ≥ 1 step, for every association list — the step bound `graph.len()` suffices
  (pigeonhole on the visited keys).
-/
import Rsactor.Extracted

namespace Rsactor.GraphSpec
open Rsactor.Extracted

/-- k-fold successor -/
def iter (g : Graph) : Nat → Nat → Option Nat
  | 0, x => some x
  | k+1, x => (g.get? x).bind (iter g k)

theorem iter_add (g : Graph) : ∀ m n x, iter g (m+n) x = (iter g m x).bind (iter g n) := by
  intro m
  induction m with
  | zero => intro n x; rw [Nat.zero_add]; rfl
  | succ m ih =>
    intro n x
    rw [Nat.succ_add]
    show (g.get? x).bind (iter g (m + n)) = ((g.get? x).bind (iter g m)).bind (iter g n)
    cases g.get? x with
    | none => rfl
    | some y => exact ih n y

/-- the translated loop finds exactly the paths of at most `fuel` steps (this lemma is what breaks if the source's
    loop changes) -/
theorem loop_spec (g : Graph) (frm to ms : Nat) : ∀ fuel cur,
    has_path.loop g frm to fuel cur ms = true ↔ ∃ k, k < fuel ∧ iter g (k+1) cur = some to := by
  intro fuel
  induction fuel with
  | zero => intro cur; exact ⟨nofun, fun ⟨_, h, _⟩ => nomatch h⟩
  | succ n ih =>
    intro cur
    unfold has_path.loop iter
    cases g.get? cur with
    | none => exact ⟨nofun, fun ⟨_, _, h⟩ => nomatch h⟩
    | some nxt =>
      show (if (nxt == to) = true then true else has_path.loop g frm to n nxt ms) = true ↔
        ∃ k, k < n + 1 ∧ iter g k nxt = some to
      split
      · rename_i e; exact ⟨fun _ => ⟨0, n.succ_pos, congrArg some (beq_iff_eq.mp e)⟩, fun _ => rfl⟩
      · rename_i e
        rw [ih]
        constructor
        · exact fun ⟨k, hk, h⟩ => ⟨k + 1, Nat.succ_lt_succ hk, h⟩
        · intro ⟨k, hk, h⟩
          cases k with
          | zero => cases h; exact absurd (beq_self_eq_true _) e
          | succ k => exact ⟨k, Nat.lt_of_succ_lt_succ hk, h⟩

theorem get?_some_mem_keys {g : Graph} {x y : Nat} (h : g.get? x = some y) : x ∈ g.keys := by
  unfold Graph.get? at h
  cases hf : g.find? (·.1 == x) with
  | none => rw [hf] at h; cases h
  | some p =>
    have hp := List.find?_some hf
    exact List.mem_map.mpr ⟨p, List.mem_of_find?_eq_some hf, beq_iff_eq.mp hp⟩

/-- a shortest path visits no node twice, and every node it leaves is a key -/
theorem bound {g : Graph} {to : Nat} :
    ∀ k x, iter g (k+1) x = some to → ∃ k', k' < g.length ∧ iter g (k'+1) x = some to := by
  intro k
  induction k using Nat.strongRecOn with
  | _ k ih =>
    intro x h
    by_cases hdup : ∃ i j, i < j ∧ j ≤ k ∧ iter g i x = iter g j x
    · -- the same node after `i` and after `j` steps: cut the loop out
      obtain ⟨i, j, hij, hjk, e⟩ := hdup
      obtain ⟨m, rfl⟩ := Nat.exists_eq_add_of_le hjk
      refine ih (i + m) (Nat.add_lt_add_right hij m) x ?_
      rw [Nat.add_assoc, iter_add] at h ⊢
      rw [e]; exact h
    · refine ⟨k, ?_, h⟩
      have hnd : ((List.range (k+1)).map (iter g · x)).Nodup :=
        List.pairwise_iff_getElem.mpr fun i j hi hj hij e =>
          hdup ⟨i, j, hij, Nat.le_of_lt_succ (by simpa using hj), by simpa using e⟩
      have hsub : (List.range (k+1)).map (iter g · x) ⊆ g.keys.map some := by
        intro o ho
        obtain ⟨i, hi, rfl⟩ := List.mem_map.mp ho
        obtain ⟨m, rfl⟩ := Nat.exists_eq_add_of_le (Nat.le_of_lt_succ (List.mem_range.mp hi))
        rw [Nat.add_assoc, iter_add] at h
        cases hy : iter g i x with
        | none => rw [hy] at h; cases h
        | some y =>
          rw [hy] at h
          cases hz : g.get? y with
          | none => rw [Option.bind_some, iter, hz] at h; cases h
          | some z => exact List.mem_map.mpr ⟨y, get?_some_mem_keys hz, rfl⟩
      have := hnd.length_le_of_subset hsub
      rwa [List.length_map, List.length_range, List.length_map, Graph.keys, List.length_map] at this

/-- `hasPath_spec`: the translated `has_path` answers exactly "is `to` reachable from `frm` in at least
    one step of the wait-for map", for every graph. -/
theorem hasPath_spec (g : Graph) (frm to : Nat) :
    has_path g frm to = true ↔ ∃ k, 0 < k ∧ iter g k frm = some to := by
  unfold has_path
  rw [loop_spec]
  constructor
  · exact fun ⟨k, _, h⟩ => ⟨k + 1, k.succ_pos, h⟩
  · intro ⟨k, h0, h⟩
    cases k with
    | zero => cases h0
    | succ k => exact bound k frm h

/-- the test `ask` makes before it inserts the edge `a → b`: would the edge close a cycle -/
theorem closes_iff (g : Graph) (a b : Nat) :
    (a == b || has_path g b a) = true ↔ a = b ∨ ∃ k, 0 < k ∧ iter g k b = some a := by
  rw [Bool.or_eq_true, beq_iff_eq, hasPath_spec]

end Rsactor.GraphSpec
