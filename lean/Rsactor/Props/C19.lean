/-
  C19 — Macro-generated code means what the hand-written code would.
-/
import Rsactor.Macro
import Rsactor.Inv.TellRes
import Rsactor.Ties.macro_options_shape
import Rsactor.Ties.macro_templates_shape
import Rsactor.Ties.handle_message_shape

namespace Rsactor.Props.C19
open Rsactor.Macro Rsactor.Extracted

/-- the documented table, stated independently of the macro's code -/
def lastIsResult : RetTy → Bool
  | .path segs => segs.getLast? == some Ident.result
  | .other => false

def spec (a : AttrForm) (ret : Option RetTy) (actualResult : Bool) : Outcome :=
  match a with
  | .nameValue => .compileError                                    -- `#[handler = ..]`
  | .path => -- plain `#[handler]`: a Result-spelled return type logs Err values, anything else logs nothing
    match ret with
    | none => .impl false
    | some t => if lastIsResult t then (if actualResult then .impl true else .compileError) else .impl false
  | .list names =>
    if names.contains .unknown then .compileError                  -- unknown option
    else if names.contains .result && names.contains .noLog then .compileError   -- mutually exclusive
    else if names.contains .noLog then .impl false                 -- no_log: never logs
    else if names.contains .result then                            -- result: needs a return type that is a Result
      (match ret with
       | none => .compileError
       | some _ => if actualResult then .impl true else .compileError)
    else -- `#[handler()]`: like the plain form
      (match ret with
       | none => .impl false
       | some t => if lastIsResult t then (if actualResult then .impl true else .compileError) else .impl false)

theorem is_result_type_spec (t : RetTy) : is_result_type t = lastIsResult t := by
  cases t with
  | other => rfl
  | path segs =>
    simp only [is_result_type, lastIsResult]
    cases segs.getLast? with
    | none => rfl
    | some s => cases s <;> rfl

/-- what `visit` computes: the flags are the presence of the two names, unless an unknown name occurs -/
theorem visit_spec (names : List OptName) (o : Opts) :
    visit o names =
      if names.contains .unknown then none
      else some { force_result := o.force_result || names.contains .result, no_log := o.no_log || names.contains .noLog } := by
  induction names generalizing o with
  | nil => simp [visit]
  | cons n rest ih => cases n <;> simp [visit, ih]

/-- `decision_table`: for every attribute form, every declared return type and both answers to "is it
    really a Result", the macro decides as the documented table says -/
theorem decision_table (a : AttrForm) (ret : Option RetTy) (actualResult : Bool) :
    decision a ret actualResult = spec a ret actualResult := by
  have plain : decision .path ret actualResult = spec .path ret actualResult := by
    cases ret with
    | none => rfl
    | some t =>
      simp only [decision, parseOpts, should_generate, spec, is_result_type_spec, Option.map_some, Option.getD_some]
      cases lastIsResult t <;> rfl
  cases a with
  | nameValue => rfl
  | path => exact plain
  | list names =>
    -- the list counts only through which of the three names occur in it
    simp only [decision, parseOpts, spec, visit_spec]
    generalize names.contains .unknown = u
    generalize names.contains .result = r
    generalize names.contains .noLog = n
    match u, r, n with
    | true, _, _ => rfl
    | false, r, true => cases r <;> rfl
    | false, true, false => cases ret <;> rfl
    | false, false, false => exact plain

theorem no_log_never_logs (names : List OptName) (ret : Option RetTy) (ar : Bool)
    (hn : names.contains .noLog = true) (hr : names.contains .result = false) (hu : names.contains .unknown = false) :
    decision (.list names) ret ar = .impl false := by
  rw [decision_table]; simp only [spec]; rw [hu, hr, hn]; rfl

theorem result_and_no_log_is_error (names : List OptName) (ret : Option RetTy) (ar : Bool)
    (hn : names.contains .noLog = true) (hr : names.contains .result = true) :
    decision (.list names) ret ar = .compileError := by
  rw [decision_table]; simp only [spec]; rw [hr, hn]; cases names.contains .unknown <;> rfl

theorem non_result_logs_nothing (t : RetTy) (ar : Bool) (h : lastIsResult t = false) :
    decision .path (some t) ar = .impl false :=
  (decision_table ..).trans (if_neg (Bool.eq_false_iff.mp h))

theorem result_spelling_logs (t : RetTy) (h : lastIsResult t = true) :
    decision .path (some t) true = .impl true :=
  (decision_table ..).trans (if_pos h)

/-! ### the runtime half: on_tell_result once after a tell, never after an ask -/
section runtime
open Rsactor.Model Rsactor.Monitor

/-- `tell_result_adjacent`: in every run, a handler that returns is followed at once by exactly one of
    `tellResult m` (on_tell_result was invoked) / `replySent m`, and neither event occurs anywhere else:
    on_tell_result is never invoked twice, never without the handler having returned, never for a handler
    that panicked. -/
theorem tell_result_adjacent (cap : Nat) (sc : Script) (ls : List Label) (s : Sys)
    (hr : run? (init cap sc) ls = some s) : C19.accepts s.ev = true :=
  congrArg Option.isSome (Reachable.of_run hr).trFold_eq

/-- `result_follows_kind`: which of the two it is is decided by the kind of the envelope being handled:
    a tell gets on_tell_result and no reply, an ask gets its reply and no on_tell_result. -/
theorem result_follows_kind (s : Sys) (mid : Nat) (k : Kind) (hpc : s.pc = .inHandler mid k)
    (hg : 0 < s.gatePermits) (hok : (s.spec mid).hout = .ok) :
    ∃ s', Model.step? s .handlerDone = some s' ∧
      s'.ev = s.ev ++ [.handlerEnd mid .ok, match k with | .tell => .tellResult mid | .ask => .replySent mid] := by
  cases k <;> simp [Model.step?, hpc, hg, hok]

end runtime

-- non-vacuity: `std::fmt::Result` (bare, no type arguments) is a Result return; an alias is not
example : decision .path (some (.path [.other, .other, .result])) true = .impl true ∧
          decision .path (some (.path [.other])) true = .impl false ∧
          decision (.list [.result]) (some (.path [.other])) true = .impl true ∧
          decision (.list [.result]) none true = .compileError ∧
          decision (.list [.result, .noLog]) (some .other) true = .compileError := by decide

/-! ### ties to the source -/
-- @tie Rsactor.Ties.macro_options_shape
-- @tie Rsactor.Ties.macro_templates_shape
-- @tie Rsactor.Ties.handle_message_shape

end Rsactor.Props.C19
