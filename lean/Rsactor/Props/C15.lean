/-
  C15 — Deadlock detection is sound and leaves no residue.
-/
import Rsactor.Inv.NetInv
import Rsactor.GraphSpec
import Rsactor.Ties.feature_sites_shape
import Rsactor.Ties.ask_protocol_shape

namespace Rsactor.Props.C15
open Rsactor.Net Rsactor.GraphSpec

/-- `graph_exact`: in every reachable state the wait-for map is exactly the set of asks that are in
    flight and unanswered (or whose callee died and whose asker has not yet observed it): an ask that was
    answered, timed out, was cancelled or failed has no edge. -/
theorem graph_exact (ls : List NLabel) (n : Net) (hr : run? init ls = some n) (a b : Nat) :
    n.graph.get? a = some b ↔
      ∃ t, (n.asks t).caller = a ∧ (n.asks t).callee = b ∧ waiting (n.asks t).st = true := by
  have h := NInv.run hr
  constructor
  · intro hg; exact ⟨n.tokOf a, h.edgeAsk a b hg⟩
  · intro ⟨t, c1, c2, c3⟩
    have := (h.askEdge t c3).1
    rw [c1, c2] at this; exact this

/-- `sound`: a deadlock is reported only if the asker asks itself or a chain of asks leads from the
    asked actor back to the asker in which EVERY link is an ask that is in flight and unanswered at that
    moment — never an answered, abandoned or failed one. -/
theorem sound (ls : List NLabel) (n n' : Net) (hr : run? init ls = some n) (a b : Nat) (path : List Nat)
    (hs : step? n (.ask a b) = some n') (hd : NEv.deadlock a b path ∈ n'.ev) (hnew : NEv.deadlock a b path ∉ n.ev) :
    a = b ∨ ∃ k, 0 < k ∧ iter n.graph k b = some a ∧
      ∀ j x y, j < k → iter n.graph j b = some x → n.graph.get? x = some y →
        (n.asks (n.tokOf x)).caller = x ∧ (n.asks (n.tokOf x)).callee = y ∧ (n.asks (n.tokOf x)).st = .inflight := by
  have h := NInv.run hr
  cases Step.of_step? hs with
  | askCycle halive _ hc =>
    rcases (closes_iff ..).mp hc with hc | ⟨k, hk0, hk⟩
    · exact .inl hc
    · refine .inr ⟨k, hk0, hk, fun j x y hj hx hxy => ?_⟩
      obtain ⟨c1, c2, c3⟩ := h.edgeAsk x y hxy
      refine ⟨c1, c2, ?_⟩
      -- y is alive: it is the asker, or it has an out-edge on the chain
      have hy : n.dead y = false := by
        obtain ⟨m, rfl⟩ := Nat.exists_eq_add_of_le hj
        rw [Nat.succ_add_eq_add_succ, iter_add, hx, Option.bind_some, iter, hxy, Option.bind_some] at hk
        cases m with
        | zero => cases hk; exact halive
        | succ m =>
          cases hdy : n.dead y with
          | false => rfl
          | true => rw [iter, (h.deadQuiet y hdy).2] at hk; cases hk
      cases hst : (n.asks (n.tokOf x)).st with
      | inflight => rfl
      | lost => rw [← c2, h.lostDead _ hst] at hy; cases hy
      | _ => rw [hst] at c3; cases c3
  | askDead | ask => exact (List.mem_append.mp hd).elim (absurd · hnew) fun h => nomatch List.mem_singleton.mp h

/-- `no_residue`: once every ask has finished — by reply, timeout, cancellation, the callee's death or
    a panic — the wait-for map is empty. -/
theorem no_residue (ls : List NLabel) (n : Net) (hr : run? init ls = some n)
    (hall : ∀ t, waiting (n.asks t).st = false) : n.graph = [] := by
  have h := NInv.run hr
  apply eq_nil_of_get?_none
  intro x
  cases hg : n.graph.get? x with
  | none => rfl
  | some y =>
    have := (h.edgeAsk x y hg).2.2
    rw [hall] at this; cases this

/-- `ended_dont_count`: as soon as an ask future completes or is dropped (reply received, Receive after
    the callee's death, timeout, cancellation) its asker has no edge. -/
theorem ended_dont_count (ls : List NLabel) (n n' : Net) (hr : run? init ls = some n) (t : Nat)
    (hs : step? n (.resume t) = some n' ∨ step? n (.giveUp t) = some n') :
    n'.graph.get? (n.asks t).caller = none := by
  have h := NInv.run hr
  rcases hs with hs | hs
  · cases Step.of_step? hs with
    | resume hst => exact h.clear_edge (hst.elim (· ▸ rfl) (· ▸ rfl))
  · cases Step.of_step? hs with
    | giveUp hst => exact h.clear_edge hst

/-- `answered_no_edge`: with the reply the asker's edge disappears — before the asker is even polled. -/
theorem answered_no_edge (ls : List NLabel) (n n' : Net) (hr : run? init ls = some n) (t : Nat)
    (hst : (n.asks t).st = .inflight) (hs : step? n (.reply t) = some n') :
    n'.graph.get? (n.asks t).caller = none := by
  cases Step.of_step? hs with
  | reply => exact (NInv.run hr).clear_edge (hst ▸ rfl)
  | replyLate h => cases hst.symm.trans h

/-- `untracked`: the protocol has no label for a caller without an actor context; the source
    confirms that such callers skip tracking (shape lemma `ask_protocol_shape`).  The scenario of the
    stale edge (DESIGN.md §9.1): B answers A's ask and, before A is polled, asks A — no deadlock. -/
theorem stale_edge_scenario_is_fine :
    ∃ n, run? init [.ask 1 2, .reply 1, .ask 2 1] = some n ∧
      n.ev.all (fun e => match e with | .deadlock _ _ _ => false | _ => true) = true ∧
      n.graph = [(2, 1)] := by
  refine ⟨_, rfl, ?_, ?_⟩ <;> decide

/-! ### ties to the source -/
-- @tie Rsactor.Ties.feature_sites_shape
-- @tie Rsactor.Ties.ask_protocol_shape

end Rsactor.Props.C15
