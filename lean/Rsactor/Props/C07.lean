/-
  C07 — Actors end when stopped or unreferenced, and only then.
-/
import Rsactor.Inv.KillBound
import Rsactor.Inv.Progress
import Rsactor.Ties.lifecycle_arms
import Rsactor.Ties.send_paths_shape
import Rsactor.Ties.handle_algebra_shape

namespace Rsactor.Props.C07
open Rsactor.Model Rsactor.Monitor

/-- `never_spontaneous`: a live actor begins to stop only in one of five steps — the kill signal is
    consumed; the control channel is observed closed with no strong reference left; the stop marker is
    dequeued; the mailbox is observed closed and empty with no strong reference left (in these two, killed is true
    exactly if a kill signal has arrived meanwhile: the loop looks at the control channel once more); on_run
    returned an error.  Nothing else (in particular not on_run returning Ok(false), not a weak handle operation)
    takes it there. -/
theorem never_spontaneous (s s' : Sys) (l : Label) (hs : step? s l = some s')
    (hlive : pcStopped s.pc = false) (k r m : Bool) (hpc : s'.pc = .stopping k r m) :
    (l = .pollTerm ∧ s.termSlot = true ∧ k = true) ∨
    (l = .pollTerm ∧ s.termSlot = false ∧ s.strongCount = 0 ∧ k = false) ∨
    (l = .pollMail ∧ (∃ o rest, s.mbox = .stop o :: rest) ∧ k = s.termSlot ∧ m = true) ∨
    (l = .pollMail ∧ s.mbox = [] ∧ s.strongCount = 0 ∧ k = s.termSlot) ∨
    (l = .pollRun ∧ r = true ∧ k = false) :=
  (Step.of_step? hs).enters_stopping hpc fun _ _ _ h => by rw [h] at hlive; cases hlive

/-- an actor ends (its JoinHandle resolves) only out of on_stop, or by a failed / panicking hook -/
theorem ends_only_after_stop_or_crash (s s' : Sys) (l : Label) (hs : step? s l = some s')
    (hlive : s.pc ≠ .ended) (hend : s'.pc = .ended) :
    (l = .stopDone ∧ ∃ k r m, s.pc = .stopping k r m) ∨
    (l = .startDone ∧ s.script.startOut ≠ .ok) ∨
    (l = .handlerDone ∧ ∃ mid kk, s.pc = .inHandler mid kk ∧ (s.spec mid).hout = .panic) ∨
    (l = .pollRun ∧ runOutAt s.script (if s.runLive then s.runIdx - 1 else s.runIdx) = .panic) := by
  rcases (Step.of_step? hs).actor_or_frame with ha | hf
  · cases ha with
    | stopDone k r m _ hpc => exact .inl ⟨rfl, k, r, m, hpc⟩
    | startErr _ _ h | startPanic _ _ h => exact .inr (.inl ⟨rfl, by rw [h]; nofun⟩)
    | handlerPanic mid k hpc _ h => exact .inr (.inr (.inl ⟨rfl, mid, k, hpc, h⟩))
    -- for `runFresh` the poll starts from `runIdx + 1`, and `s.runIdx + 1 - 1` computes to `s.runIdx`
    | runAgain _ _ hl hr | runFresh _ _ hl hr =>
      exact .inr (.inr (.inr ⟨rfl, by rw [hl]; exact hr.panic_of_ended hend⟩))
    | _ => cases hend
  · exact absurd (hf.pc ▸ hend) hlive

/-- `weak_dont_count`: creating, cloning or dropping a weak handle never changes the number of strong
    references the actor sees; a weak handle is never counted. -/
theorem weak_dont_count (s s' : Sys) (h : Nat) (hs : step? s (.downgrade h) = some s') :
    s'.strongCount = s.strongCount := by
  cases (Step.of_step? hs).toOwner rfl with
  | downgrade => simp [Sys.strongCount, strongHandles, List.filter_append]

/-- `upgrade_iff`: upgrading a weak handle yields a new strong handle exactly while a strong reference
    (handle, queued item, waiter, running handler, operation in flight) still exists. -/
theorem upgrade_iff (s s' : Sys) (h : Nat) (hs : step? s (.upgrade h) = some s') :
    (0 < s.strongCount → s'.handles = s.handles ++ [(s.nextHid, true)]) ∧
    (s.strongCount = 0 → s'.handles = s.handles ∧ Ev.upgradeFailed h ∈ s'.ev) := by
  cases (Step.of_step? hs).toOwner rfl with
  | upgrade _ _ hp => exact ⟨fun _ => rfl, fun h0 => absurd hp (by omega)⟩
  | upgradeFailed _ _ hp =>
    exact ⟨fun h0 => absurd h0 hp, fun _ => ⟨rfl, List.mem_append_right _ (List.mem_singleton.mpr rfl)⟩⟩

/-- `closed_means_unreferenced`: the loop observes "all references dropped" only when the count of
    strong references — client handles, queued envelopes and stop markers, senders blocked for a slot,
    the reference inside the running handler, operations in flight, the task's own reference during
    on_start — is zero; in particular not while anything is queued. -/
theorem closed_means_unreferenced (s : Sys) (h : s.strongCount = 0) :
    s.mbox = [] ∧ s.waiters = [] ∧ strongHandles s.handles = 0 ∧ s.inflight = 0 ∧ s.taskRef = false := by
  simp only [Sys.strongCount, Nat.add_eq_zero_iff] at h
  obtain ⟨⟨⟨⟨⟨⟨hh, hm⟩, hw⟩, _⟩, ht⟩, _⟩, hi⟩ := h
  exact ⟨List.eq_nil_of_length_eq_zero hm, List.eq_nil_of_length_eq_zero hw, hh, hi,
    Bool.eq_false_iff.mpr fun h => by rw [if_pos h] at ht; cases ht⟩

/-- `ends_when_unreferenced` (progress): a parked actor with no strong reference left and no pending
    kill runs on_stop(killed = false) at its next wake-up. -/
theorem ends_when_unreferenced (s : Sys) (hpc : s.pc = .parked) (h0 : s.strongCount = 0) (ht : s.termSlot = false) :
    ∃ s', run? s [.wake, .pollTerm] = some s' ∧ s'.pc = .stopping false false false ∧
      s'.ev = s.ev ++ [.stopStart false] := by
  have h0' : ({ s with pc := .selTerm } : Sys).strongCount = 0 := by
    simpa [Sys.strongCount, hpc, inHandlerRef] using h0
  have h1 : step? s .wake = some { s with pc := .selTerm } := by simp [step?, hpc]
  have h2 : step? { s with pc := .selTerm } .pollTerm =
      some { s with pc := .stopping false false false, runLive := false, ev := s.ev ++ [.stopStart false] } := by
    simp only [step?]
    rw [if_pos trivial, if_neg (by simp [ht]), if_pos h0']
  exact ⟨{ s with pc := .stopping false false false, runLive := false, ev := s.ev ++ [.stopStart false] },
    by simp only [run?, h1, h2], rfl, rfl⟩

/-- `ends_when_stopped` (progress): with the stop marker at the head of the mailbox and no kill pending,
    the next poll runs on_stop(killed = false). -/
theorem ends_when_stopped (s : Sys) (hpc : s.pc = .selTerm) (ht : s.termSlot = false) (o : Nat) (rest : List Item)
    (hm : s.mbox = .stop o :: rest) :
    ∃ s', run? s [.pollTerm, .pollMail] = some s' ∧ s'.pc = .stopping false false true := by
  have hsc : s.strongCount ≠ 0 := by simp [Sys.strongCount, hm]
  simp [run?, step?, hpc, ht, hsc, hm]

-- non-vacuity: the last reference is a queued envelope; the actor handles it, then stops gracefully
example : ∃ s, run? (init 2 {})
    [.gate, .startDone, .issue 0 { kind := .tell }, .push 0, .dropH 0, .pollTerm, .pollMail, .gate, .handlerDone,
     .pollTerm] = some s ∧ s.pc = .stopping false false false ∧ startedMids s.ev = [0] := by
  refine ⟨_, rfl, ?_, ?_⟩ <;> decide

/-- `unreferenced_actor_does_not_idle`: in a state in which the runtime has nothing left to run, an actor to which no strong
    reference remains (none in a handle, none in a queued message, none in a running hook) is not parked in its select:
    it has ended, or it is inside a hook that waits for its own external event.  With `ends_when_unreferenced` (the
    step it takes) and `never_spontaneous` (the only steps that begin a stop) this is "ends when unreferenced, and only
    then" without a fairness assumption. -/
theorem unreferenced_actor_does_not_idle (s : Sys) (hq : quiescent s) (h0 : s.strongCount = 0) :
    s.pc = .ended ∨
    (s.gatePermits = 0 ∧ (s.pc = .starting ∨ (∃ m k, s.pc = .inHandler m k) ∨ ∃ a b c, s.pc = .stopping a b c)) :=
  quiescent_due_has_ended s hq (Or.inr (Or.inl h0))

/-- ... and conversely an actor that idles (parked, nothing to run) is referenced, has no kill pending and owes no message -/
theorem idle_actor_is_referenced (s : Sys) (hq : quiescent s) (hpk : s.pc = .parked) :
    s.termSlot = false ∧ s.strongCount ≠ 0 ∧ s.mbox = [] :=
  quiescent_parked s hq hpk

/-! ### ties to the source -/
-- @tie Rsactor.Ties.lifecycle_arms
-- @tie Rsactor.Ties.send_paths_shape
-- @tie Rsactor.Ties.handle_algebra_shape

end Rsactor.Props.C07
