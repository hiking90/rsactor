/-
  C16 — Type-erased handles are transparent.
-/
import Rsactor.Model
import Rsactor.Ties.forwarders_verbatim
import Rsactor.Ties.forwarders_strength
import Rsactor.Ties.conversions_shape
import Rsactor.Ties.handle_algebra_shape

namespace Rsactor.Props.C16
open Rsactor.Model Rsactor.Extracted

/-- what an operation on a trait object resolves to: the forwarder table, read from src/handler.rs and
    src/actor_control.rs on every run, sends (trait, method) to the inherent method of the same name on
    the underlying `ActorRef` / `ActorWeak`, with the same arguments -/
def resolves (tr m : String) : Option (String × String) :=
  (forwarders.find? fun (t, _, mm, _, _, _) => t == tr && mm == m).map fun (_, ty, mm, _, _, _) => (ty, mm)

/-- `forwarders_verbatim`: every method of TellHandler, AskHandler, WeakTellHandler, WeakAskHandler,
    ActorControl and WeakActorControl forwards verbatim (same method, same arguments, only `.boxed()` /
    `Box::new` around), strong traits are implemented by `ActorRef` only and weak ones by `ActorWeak` only. -/
theorem forwarders_verbatim :
    forwarders.all (fun (_, _, _, ok, wtr, wty) => ok && (wtr == wty)) = true ∧ forwarders.length = 28 := by
  decide

/-- `conversions`: every `From` conversion boxes the value itself (a clone when taken by reference) and
    never changes strength: strong → strong, weak → weak. -/
theorem conversions_keep_strength :
    conversions.all (fun (_, _, srcWeak, dstWeak, ok) => ok && (srcWeak == dstWeak)) = true := Ties.conversions_shape.1

/-- `transparent` (model side): the model's step function does not look at how a handle is wrapped — an
    operation is identified by the handle's actor and strength only — so the erased execution and the
    direct execution of a script are the same run; with `forwarders_verbatim` this is what the real crate
    does for every method in the table.  Stated as: cloning a handle yields a handle of the same strength, -/
theorem clone_keeps_strength (s s' : Sys) (h : Nat) (st : Bool) (hf : s.handles.find? (·.1 = h) = some (h, st))
    (hs : step? s (.clone h) = some s') : s'.handles = s.handles ++ [(s.nextHid, st)] := by
  unfold step? at hs; simp only [hf] at hs; cases hs; rfl

/-- `keeps_alive`: a strong (erased or not) clone counts as a strong reference, a weak one never does. -/
theorem keeps_alive (s s' : Sys) (h : Nat) (st : Bool) (hf : s.handles.find? (·.1 = h) = some (h, st))
    (hs : step? s (.clone h) = some s') :
    s'.strongCount = s.strongCount + (if st then 1 else 0) := by
  unfold step? at hs; simp only [hf] at hs; cases hs
  have : strongHandles (s.handles ++ [(s.nextHid, st)]) = strongHandles s.handles + if st then 1 else 0 := by
    rw [strongHandles, List.filter_append, List.length_append]; cases st <;> rfl
  simp only [Sys.strongCount, this]; omega

-- non-vacuity: the table really contains the blocking and timeout forwarders
example : resolves "TellHandler" "tell_with_timeout" = some ("ActorRef", "tell_with_timeout") ∧
          resolves "AskHandler" "blocking_ask" = some ("ActorRef", "blocking_ask") ∧
          resolves "WeakActorControl" "upgrade" = some ("ActorWeak", "upgrade") := by decide

/-! ### ties to the source -/
-- @tie Rsactor.Ties.forwarders_verbatim
-- @tie Rsactor.Ties.forwarders_strength
-- @tie Rsactor.Ties.conversions_shape
-- @tie Rsactor.Ties.handle_algebra_shape

end Rsactor.Props.C16
