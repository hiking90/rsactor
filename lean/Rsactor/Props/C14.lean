/-
  C14 — Deadlock detection is complete for sequential ask cycles.
-/
import Rsactor.Inv.NetInv
import Rsactor.GraphSpec
import Rsactor.Ties.feature_sites_shape
import Rsactor.Ties.ask_protocol_shape
import Rsactor.Ties.timeout_wrappers_shape

namespace Rsactor.Props.C14
open Rsactor.Net Rsactor.Extracted Rsactor.GraphSpec

/-- `hasPath_spec`: the function translated from `has_path` in src/lib.rs decides reachability in at
    least one step of the wait-for map, for every graph (the step bound `len()` always suffices). -/
theorem hasPath_spec (g : Graph) (frm to : Nat) :
    has_path g frm to = true ↔ ∃ k, 0 < k ∧ iter g k frm = some to :=
  GraphSpec.hasPath_spec g frm to

/-- `graph_covers`: in every reachable state of the protocol, every ask that is in flight and
    unanswered has its edge in the wait-for map (so a cycle of such asks is always visible). -/
theorem graph_covers (ls : List NLabel) (n : Net) (hr : run? init ls = some n) (t : Nat)
    (hst : (n.asks t).st = .inflight) :
    n.graph.get? (n.asks t).caller = some (n.asks t).callee :=
  ((NInv.run hr).askEdge t (by rw [hst]; rfl)).1

/-- `closes_panics`: whenever the ask a hook of `a` is about to make would close a cycle — `a` asks
    itself, or a chain of in-flight asks of any length leads from `b` back to `a` — the ask does not
    wait: it is reported as a deadlock (with the cycle path), `a` ends, no edge is inserted. This holds
    for every cycle length and every order in which the edges of the cycle were created. -/
theorem closes_panics (ls : List NLabel) (n : Net) (_hr : run? init ls = some n) (a b : Nat)
    (halive : n.dead a = false) (hidle : n.busy a = none)
    (hcyc : a = b ∨ ∃ k, 0 < k ∧ iter n.graph k b = some a) :
    ∃ n', step? n (.ask a b) = some n' ∧
      NEv.deadlock a b (format_cycle_path n.graph a b) ∈ n'.ev ∧ n'.dead a = true ∧
      n'.graph = n.graph ∧ n'.busy a = none := by
  have hc := (closes_iff n.graph a b).mpr hcyc
  -- `step?` is a chain of tests: the guard on `a` passes, the cycle test fires
  refine ⟨_, (if_neg ?_).trans (if_pos hc), ?_, setN_self .., rfl, hidle⟩
  · rw [halive, hidle]; exact fun h => h.elim nofun nofun
  · exact List.mem_append_left _ (List.mem_append_right _ (List.mem_singleton_self _))

/-- `waits_otherwise`: if no cycle would close (and the callee lives) the ask is admitted and its edge
    is inserted under the same lock as the check. -/
theorem waits_otherwise (n : Net) (a b : Nat) (halive : n.dead a = false) (hidle : n.busy a = none)
    (hb : n.dead b = false) (hne : a ≠ b) (hno : ¬ ∃ k, 0 < k ∧ iter n.graph k b = some a) :
    ∃ n', step? n (.ask a b) = some n' ∧ n'.graph = n.graph.insert a b ∧ n'.busy a = some n.nextTok := by
  have hc : ¬ (a == b || has_path n.graph b a) = true := fun h => ((closes_iff ..).mp h).elim hne hno
  -- the guard on `a`, the cycle test and the test for a dead callee all pass
  refine ⟨_, (if_neg ?_).trans ((if_neg hc).trans (if_neg (hb ▸ nofun))), rfl, setN_self ..⟩
  rw [halive, hidle]; exact fun h => h.elim nofun nofun

/-- `no_one_left_waiting`: after the panic the other participants do not wait forever: an ask whose
    callee has died, and an ask that has been answered, can always be resumed by its asker. -/
theorem no_one_left_waiting (n : Net) (t : Nat) (h : (n.asks t).st = .lost ∨ (n.asks t).st = .answered) :
    ∃ n', step? n (.resume t) = some n' ∧ (n'.asks t).st = .done ∧ n'.busy (n.asks t).caller = none := by
  refine ⟨?_, ?step, ?_, ?_⟩
  case step => rcases h with h | h <;> simp only [step?, stepWith, h] <;> rfl
  · exact congrArg AskRec.st (setN_self ..)
  · exact setN_self ..

/-- and asks in flight to an actor that dies are marked lost in the very step in which it dies -/
theorem asks_to_dead_are_lost (n n' : Net) (y : Nat) (hs : step? n (.die y) = some n') (t : Nat)
    (hc : (n.asks t).callee = y) (hst : (n.asks t).st = .inflight) (hnb : n.busy y ≠ some t) :
    (n'.asks t).st = .lost := by
  cases Step.of_step? hs with
  | dieIdle => exact congrArg AskRec.st (if_pos ⟨hc, hst⟩)
  | dieBusy _ hb =>
    show (loseTo (setN n.asks _ _) y t).st = .lost
    unfold loseTo
    rw [setN_ne fun e : t = _ => hnb (e ▸ hb), if_pos ⟨hc, hst⟩]

/-- `late_reply_keeps_newer_edge`: a reply that arrives after its asker has given up (timeout, cancellation) still
    calls `clear_wait_for` with the old ask's token; in every reachable state that call changes nothing - in
    particular an edge the same asker has registered since, for its next ask, stays in the map (so a cycle through
    it is still seen: `graph_covers` holds after the step as before it). -/
theorem late_reply_keeps_newer_edge (ls : List NLabel) (n n' : Net) (hr : run? init ls = some n) (t : Nat)
    (hst : (n.asks t).st = .abandoned) (hs : step? n (.reply t) = some n') :
    n'.graph = n.graph ∧ n'.tokOf = n.tokOf ∧ n'.asks = n.asks ∧ n'.busy = n.busy := by
  cases Step.of_step? hs with
  | reply h => cases hst.symm.trans h
  | replyLate => rw [clear_stale (NInv.run hr) hst]; exact ⟨rfl, rfl, rfl, rfl⟩

-- non-vacuity: actor 1 asks 2, gives up, asks 3; the late reply of 2 arrives; 3 asking 1 is still reported
example : ∃ n, run? init [.ask 1 2, .giveUp 1, .ask 1 3, .reply 1, .ask 3 1] = some n ∧
    NEv.deadlock 3 1 [3, 1, 3] ∈ n.ev := by
  refine ⟨_, rfl, ?_⟩; decide

/-- the cycle path in the panic message starts with the asking actor -/
theorem path_starts_with_caller (g : Graph) (a b : Nat) : (format_cycle_path g a b).head? = some a := by
  -- the loop only appends to the path
  have hloop : ∀ fuel path cur ms, ∃ s, format_cycle_path.loop g a b fuel path cur ms = path ++ s := by
    intro fuel
    induction fuel with
    | zero => exact fun path _ _ => ⟨[], (List.append_nil path).symm⟩
    | succ n ih =>
      intro path cur ms
      unfold format_cycle_path.loop
      cases g.get? cur with
      | none => exact ⟨[], (List.append_nil path).symm⟩
      | some idn =>
        show ∃ s, (if (idn == a) = true then path ++ [idn]
          else format_cycle_path.loop g a b n (path ++ [idn]) idn ms) = path ++ s
        split
        · exact ⟨_, rfl⟩
        · obtain ⟨s, e⟩ := ih (path ++ [idn]) idn ms
          exact ⟨_, e.trans (List.append_assoc ..)⟩
  unfold format_cycle_path
  split
  · rfl
  · obtain ⟨s, e⟩ := hloop g.length [a, b] b g.length
    rw [e]; rfl

-- non-vacuity: a three-actor cycle 1 → 2 → 3 → 1 created in order; the closing ask panics and names the cycle
example : ∃ n, run? init [.ask 1 2, .ask 2 3, .ask 3 1] = some n ∧
    NEv.deadlock 3 1 [3, 1, 2, 3] ∈ n.ev ∧ n.dead 3 = true := by
  refine ⟨_, rfl, ?_, ?_⟩ <;> decide

/-! ### ties to the source -/
-- @tie Rsactor.Ties.feature_sites_shape
-- @tie Rsactor.Ties.ask_protocol_shape
-- a timed ask is `timeout(d, self.ask(msg))`: the protocol above (check, insert, panic) applies to it whatever the budget
-- @tie Rsactor.Ties.timeout_wrappers_shape

end Rsactor.Props.C14
