/-
  C03 — ask: the reply belongs to the request, and ask never hangs on a dead actor.
-/
import Rsactor.Ties.timeout_wrappers_shape
import Rsactor.Ties.blocking_dispatch_shape
import Rsactor.Ties.reply_wait_shape
import Rsactor.Ties.ask_join_shape
import Rsactor.Ties.send_paths_shape
import Rsactor.Ties.handle_message_shape
import Rsactor.Ties.lifecycle_arms
import Rsactor.Inv.Progress

namespace Rsactor.Props.C03
open Rsactor.Model Rsactor.Monitor

/-- `reply_integrity`: in every run, an ask that returns Ok(v) returns the value produced for that very
    request (the token of its own id), and only after its handler completed normally. -/
theorem reply_integrity (cap : Nat) (sc : Script) (ls : List Label) (s : Sys)
    (hr : run? (init cap sc) ls = some s) : C03.replyIntegrity s.ev = true :=
  (Reachable.of_run hr).replyInv.1

/-- `ended_clean`: once the actor has ended — for whatever reason — its mailbox is closed and empty and no
    reply is pending any more, except for envelopes that were pushed after the receivers had been dropped. -/
theorem ended_clean (cap : Nat) (sc : Script) (ls : List Label) (s : Sys)
    (hr : run? (init cap sc) ls = some s) (he : s.pc = .ended) :
    s.rxOpen = false ∧ s.mbox = [] ∧ ∀ m, s.reply m = .pending → Item.env m .ask ∈ s.stranded := by
  have h := Reachable.of_run hr
  have hc := h.closed_iff.mpr he
  have hm := h.fifoInv.mbox_closed hc
  refine ⟨hc, hm, fun m hp => ?_⟩
  rcases h.pendingWhere m hp with hq | hq | hq
  · rw [hm] at hq; cases hq
  · rw [he] at hq; cases hq
  · exact hq

/-- `later_fail`: every tell / ask issued once the actor has ended fails with Send within its own
    label (no waiting), and stop() / kill() return Ok. -/
theorem later_fail (s : Sys) (hc : s.rxOpen = false) (h : Nat) (hh : (h, true) ∈ s.handles) (op : OpSpec) :
    ∃ s', step? s (.issue h op) = some s' ∧
      s'.client s.nextOid = .done (match op.kind with | .tell => .send | .ask => .send | _ => .ok) := by
  have hn : ¬ s.rxOpen = true := by simp [hc]
  rw [step?, Sys.issue, if_pos hh]
  cases op.kind with
  | kill => exact ⟨_, rfl, setF_self ..⟩
  | _ => exact ⟨_, if_pos hn, setF_self ..⟩

/-- `completes`: once the actor has ended, every operation still in flight — queued for a permit,
    holding a permit, or awaiting a reply (its envelope queued, in the handler that panicked, or
    stranded) — completes within at most two of its own steps. With the reply wait that also
    watches the mailbox being closed (`Extracted.ask_wait_watches_closed`), this includes an ask whose
    envelope was pushed after the receivers were dropped. -/
theorem completes (cap : Nat) (sc : Script) (ls : List Label) (s : Sys)
    (hr : run? (init cap sc) ls = some s) (he : s.pc = .ended) (oid : Nat)
    (hc : s.client oid = .waiting ∨ s.client oid = .awaiting) :
    ∃ ls' s', ls'.length ≤ 2 ∧ run? s ls' = some s' ∧ ∃ r, s'.client oid = .done r := by
  have h := Reachable.of_run hr
  have hcl : s.rxOpen = false := h.closed_iff.mpr he
  rcases hc with hc | hc
  · obtain ⟨w, hw, rfl⟩ := mem_keys.mp ((h.queued oid).mp hc)
    cases ha : w.acq
    · obtain ⟨s', hs, hd⟩ := grantWake_closed hcl hw ha
      exact ⟨[.grantWake w.oid], s', by simp, by simp only [run?, hs], hd⟩
    · obtain ⟨s', hs, hcl', hd | ha'⟩ := push_closed h.idsInv hcl hw ha
      · exact ⟨[.push w.oid], s', by simp, by simp only [run?, hs], hd⟩
      · obtain ⟨s'', hs', hd⟩ := recvReply_closed hcl' ha'
        exact ⟨[.push w.oid, .recvReply w.oid], s'', by simp, by simp only [run?, hs, hs'], hd⟩
  · obtain ⟨s', hs, hd⟩ := recvReply_closed hcl hc
    exact ⟨[.recvReply oid], s', by simp, by simp only [run?, hs], hd⟩

-- non-vacuity: the hang scenario of DESIGN.md §9.2 — permit taken, actor stops and exits, push lands
-- afterwards: with the repaired reply wait the asker still completes (Err(Receive))
example : ∃ s, run? (init 1 {})
    [.gate, .startDone, .issue 0 { kind := .ask }, .issue 0 { kind := .kill }, .pollTerm, .gate, .stopDone,
     .push 0, .recvReply 0] = some s ∧ s.client 0 = .done .receive ∧ s.stranded = [.env 0 .ask] := by
  refine ⟨_, rfl, ?_, ?_⟩ <;> decide

/-- `no_operation_left_hanging`: whenever the runtime has nothing left to run (neither the actor's task nor any client
    operation can take a step) and the actor is idle - parked in its select with an empty mailbox - or has ended,
    every operation ever issued has returned: no tell or stop() still waits for a slot, no ask still waits for its
    reply.  A live, idle actor owes nobody an answer; an ended one has failed everything that was pending.  (What can
    still be outstanding in a quiescent state is exactly the work of a hook that is waiting for its own external
    event - here: a gate.) -/
theorem no_operation_left_hanging (cap : Nat) (sc : Script) (ls : List Label) (s : Sys) (hcap : 0 < cap)
    (hr : run? (init cap sc) ls = some s) (hq : quiescent s) (hidle : s.pc = .parked ∨ s.pc = .ended) (oid : Nat) :
    s.client oid ≠ .waiting ∧ s.client oid ≠ .awaiting :=
  quiescent_all_returned cap sc ls s hcap hr hq hidle oid

/-- ... and that is all that can keep an operation outstanding: in a quiescent state the actor is parked, ended, or inside
    a hook that waits for its own external event; unless it is inside such a hook, every operation has returned. -/
theorem outstanding_only_behind_a_waiting_hook (cap : Nat) (sc : Script) (ls : List Label) (s : Sys) (hcap : 0 < cap)
    (hr : run? (init cap sc) ls = some s) (hq : quiescent s)
    (hnohook : s.pc ≠ .starting ∧ (∀ m k, s.pc ≠ .inHandler m k) ∧ ∀ a b c, s.pc ≠ .stopping a b c) (oid : Nat) :
    s.client oid ≠ .waiting ∧ s.client oid ≠ .awaiting := by
  rcases quiescent_actor_where s hq with h | h | ⟨_, h | ⟨m, k, h⟩ | ⟨a, b, c, h⟩⟩
  · exact quiescent_all_returned cap sc ls s hcap hr hq (Or.inl h) oid
  · exact quiescent_all_returned cap sc ls s hcap hr hq (Or.inr h) oid
  · exact absurd h hnohook.1
  · exact absurd h (hnohook.2.1 m k)
  · exact absurd h (hnohook.2.2 a b c)

/-- the same in the scheduler's own terms: whenever the deterministic runtime of the correspondence has emptied its run
    queue (`Exec.runnable s = []`, the condition under which a macro-step ends) and the actor is not inside a hook, every
    operation has returned - this is what "settled" means for the traces the monitors read -/
theorem settled_scheduler_all_returned (cap : Nat) (sc : Script) (ls : List Label) (s : Sys) (hcap : 0 < cap)
    (hr : run? (init cap sc) ls = some s) (hq : Exec.runnable s = [])
    (hnohook : s.pc ≠ .starting ∧ (∀ m k, s.pc ≠ .inHandler m k) ∧ ∀ a b c, s.pc ≠ .stopping a b c) (oid : Nat) :
    s.client oid ≠ .waiting ∧ s.client oid ≠ .awaiting :=
  outstanding_only_behind_a_waiting_hook cap sc ls s hcap hr
    (runnable_nil_quiescent s (Reachable.of_run hr).idsInv hq) hnohook oid

-- non-vacuity: after a tell and an ask were served the actor is parked, nothing can run, both have returned
example : ∃ s, run? (init 1 {})
    [.gate, .startDone, .pollTerm, .pollMail, .pollRun,
     .issue 0 { kind := .tell }, .push 0, .issue 0 { kind := .ask }, .wake, .pollTerm, .pollMail, .grantWake 1, .push 1, .gate, .handlerDone,
     .pollTerm, .pollMail, .gate, .handlerDone, .recvReply 1, .pollTerm, .pollMail, .pollRun] = some s ∧
    s.pc = .parked ∧ Exec.actorLabel s = none ∧ Exec.clientLabel s 0 = none ∧ Exec.clientLabel s 1 = none ∧
    s.client 0 = .done .ok ∧ s.client 1 = .done (.reply 1) := by
  refine ⟨_, rfl, ?_⟩; decide

/-! ### ties to the source: shape lemmas about the tables regenerated from /repo on every run -/
-- @tie Rsactor.Ties.timeout_wrappers_shape
-- @tie Rsactor.Ties.blocking_dispatch_shape
-- @tie Rsactor.Ties.reply_wait_shape
-- @tie Rsactor.Ties.ask_join_shape
-- @tie Rsactor.Ties.send_paths_shape
-- @tie Rsactor.Ties.handle_message_shape
-- @tie Rsactor.Ties.lifecycle_arms

end Rsactor.Props.C03
