/-
  C13 — Exactly one dead letter per failed delivery, none per success.
-/
import Rsactor.Inv.Dead
import Rsactor.Ties.dead_letter_census
import Rsactor.Ties.timeout_wrappers_shape
import Rsactor.Ties.forwarders_verbatim

namespace Rsactor.Props.C13
open Rsactor.Model Rsactor.Monitor

/-- `dead_exact`: in every run, the dead letters recorded are exactly the failing returns
    (Send ↔ actor stopped, Timeout ↔ timeout, Receive ↔ reply dropped), in the same order, each dead
    letter immediately followed by the failing return of the same operation; a successful return
    records none. -/
theorem dead_exact (cap : Nat) (sc : Script) (ls : List Label) (s : Sys)
    (hr : run? (init cap sc) ls = some s) :
    C13.paired s.ev = true ∧ s.dead = C13.failures s.ev ∧ C13.deadLetters s.ev = C13.failures s.ev := by
  obtain ⟨h1, h2, h3⟩ := (Reachable.of_run hr).deadInv
  exact ⟨by simp [C13.paired, h1], by rw [h2, h3], h3⟩

/-- `count_exact`: the dead-letter counter equals the number of failed deliveries. -/
theorem count_exact (cap : Nat) (sc : Script) (ls : List Label) (s : Sys)
    (hr : run? (init cap sc) ls = some s) :
    s.dead.length = (C13.failures s.ev).length := by
  rw [(dead_exact cap sc ls s hr).2.1]

/-- the reason always matches the returned error -/
theorem reason_table :
    C13.reasonOf .send = some .actorStopped ∧ C13.reasonOf .timeout = some .timeout ∧
    C13.reasonOf .receive = some .replyDropped ∧ C13.reasonOf .ok = none ∧ ∀ m, C13.reasonOf (.reply m) = none :=
  ⟨rfl, rfl, rfl, rfl, fun _ => rfl⟩

-- non-vacuity: a run with one success, one Send failure, one Timeout and one ReplyDropped
example : ∃ s, run? (init 1 {})
    [.gate, .startDone, .issue 0 { kind := .ask }, .push 0, .pollTerm, .pollMail,
     .issue 0 { kind := .tell, timeout := some 5 }, .push 1, .issue 0 { kind := .ask },
     .issue 0 { kind := .tell, timeout := some 5 }, .advance 5, .timeoutFire 3,
     .issue 0 { kind := .kill }, .gate, .handlerDone, .recvReply 0, .pollTerm, .gate, .stopDone,
     .grantWake 2, .issue 0 { kind := .tell }] = some s ∧
    s.dead = [(3, .timeout), (2, .actorStopped), (5, .actorStopped)] := by
  refine ⟨_, rfl, ?_⟩; decide

/-! ### ties to the source: shape lemmas about the tables regenerated from /repo on every run -/
-- @tie Rsactor.Ties.dead_letter_census
-- @tie Rsactor.Ties.timeout_wrappers_shape
-- @tie Rsactor.Ties.forwarders_verbatim

end Rsactor.Props.C13
