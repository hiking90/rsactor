/-
  C01 — Accepted messages are handled exactly once; rejected ones never.
-/
import Rsactor.Inv.Progress
import Rsactor.Inv.Stop
import Rsactor.Inv.Rej
import Rsactor.Inv.Time
import Rsactor.Ties.send_paths_shape
import Rsactor.Ties.timeout_wrappers_shape
import Rsactor.Ties.lifecycle_arms

namespace Rsactor.Props.C01
open Rsactor.Model Rsactor.Monitor

theorem envIds_sublist (l : List Item) : (envIds l).Sublist (l.map Item.oid) := by
  induction l with
  | nil => exact .slnil
  | cons x xs ih =>
    cases x with
    | env m k => exact ih.cons_cons m
    | stop o => exact ih.cons o

/-- handler starts are a sub-sequence of the acceptance log -/
theorem started_sub_accepted (cap : Nat) (sc : Script) (ls : List Label) (s : Sys)
    (hr : run? (init cap sc) ls = some s) : (startedMids s.ev).Sublist (accOids s) := by
  rw [(Reachable.of_run hr).fifoInv.started]
  exact (envIds_sublist _).trans (List.Sublist.map _ (List.take_sublist _ _))

/-- `at_most_once`: in every run, every message is handled at most once. -/
theorem at_most_once (cap : Nat) (sc : Script) (ls : List Label) (s : Sys)
    (hr : run? (init cap sc) ls = some s) : C01.atMostOnce s.ev = true :=
  decide_eq_true ((started_sub_accepted cap sc ls s hr).nodup (Reachable.of_run hr).idsInv.accNodup)

/-- `handled_were_accepted`: only accepted messages are ever handled. -/
theorem handled_were_accepted (cap : Nat) (sc : Script) (ls : List Label) (s : Sys)
    (hr : run? (init cap sc) ls = some s) (mid : Nat) (h : Ev.handlerStart mid ∈ s.ev) :
    mid ∈ accOids s :=
  (started_sub_accepted cap sc ls s hr).subset (List.mem_filterMap.mpr ⟨_, h, rfl⟩)

/-- `rejected_never`: a tell that returned Send or Timeout, and an ask that returned Send, is not
    handled in this state — and, the statement holding for every run, in no later state either. -/
theorem rejected_never (cap : Nat) (sc : Script) (ls : List Label) (s : Sys)
    (hr : run? (init cap sc) ls = some s) (oid a : Nat)
    (h : Ev.ret oid .send a ∈ s.ev ∨ (Ev.ret oid .timeout a ∈ s.ev ∧ (s.spec oid).kind = .tell)) :
    Ev.handlerStart oid ∉ s.ev ∧ oid ∉ accOids s ∧ oid ∉ keysOf s := by
  obtain ⟨r1, r2⟩ := (Reachable.of_run hr).rejInv oid ⟨a, h⟩
  exact ⟨fun hm => r1 (handled_were_accepted cap sc ls s hr oid hm), r1, r2⟩

/-- the same on the monitor predicate that is evaluated on real traces -/
theorem rejected_never_monitor (cap : Nat) (sc : Script) (ls : List Label) (s : Sys)
    (hr : run? (init cap sc) ls = some s) : C01.rejectedNever s.ev = true := by
  have hreach := Reachable.of_run hr
  refine List.all_eq_true.mpr fun e he => ?_
  split
  · rename_i oid r a
    -- the kind the monitor reads off `issued` is the one in `spec`: its three clauses are those of `rejected_never`
    obtain ⟨a0, ha0, _⟩ := hreach.timeInv.2.1 oid (hreach.idsInv.retLt oid r a he)
    have nostart (hrej : Ev.ret oid .send a ∈ s.ev ∨ (Ev.ret oid .timeout a ∈ s.ev ∧ (s.spec oid).kind = .tell)) :
        (!(s.ev.any (isStart oid))) = true :=
      (Bool.not_eq_true' _).mpr (Bool.eq_false_iff.mpr (mt any_isStart.mp (rejected_never cap sc ls s hr oid a hrej).1))
    rw [ha0]
    split
    · exact nostart (.inl he)
    · exact nostart (.inr ⟨he, (Prod.mk.inj (Option.some.inj ‹_›)).1⟩)
    · exact nostart (.inl he)
    · rfl
  · rfl

/-- `graceful_complete`: in every reachable state, every envelope among the first `taken` entries of the
    acceptance log - everything the loop has dequeued - has had its handler started (with `at_most_once`:
    exactly once).  `taken` only stops growing when the loop stops (kill, stop marker, crash, no reference). -/
theorem graceful_complete (cap : Nat) (sc : Script) (ls : List Label) (s : Sys)
    (hr : run? (init cap sc) ls = some s) (i : Nat) (hi : i < s.taken) (m : Nat) (k : Kind)
    (ha : s.accepted[i]? = some (.env m k)) : m ∈ startedMids s.ev :=
  (Reachable.of_run hr).fifoInv.started_iff.mpr ⟨k, i, hi, ha⟩

/-- `marker_is_next`: when the loop is about to dequeue a stop marker, the marker sits at position `taken`
    of the acceptance log: everything accepted before it has been dequeued, hence (graceful_complete)
    handled before on_stop begins. -/
theorem marker_is_next (cap : Nat) (sc : Script) (ls : List Label) (s : Sys)
    (hr : run? (init cap sc) ls = some s) (hpc : s.pc = .selMail) (o : Nat) (rest : List Item)
    (hm : s.mbox = .stop o :: rest) : s.accepted[s.taken]? = some (.stop o) := by
  have hreach := Reachable.of_run hr
  exact hreach.fifoInv.head (hreach.open_of_live (by rw [hpc]; nofun)) hm

-- non-vacuity: capacity 1, a handled ask, a queued tell, a blocked timed tell that times out
example : ∃ s, run? (init 1 {})
    [.gate, .startDone, .issue 0 { kind := .ask }, .push 0, .pollTerm, .pollMail,
     .issue 0 { kind := .tell }, .push 1, .issue 0 { kind := .tell, timeout := some 5 }, .advance 5,
     .timeoutFire 2] = some s ∧ Ev.ret 2 .timeout 5 ∈ s.ev ∧ (s.spec 2).kind = .tell := by
  refine ⟨_, rfl, ?_, ?_⟩ <;> decide

/-- `accepted_message_is_not_left_waiting`: in a state in which the runtime has nothing left to run, no accepted message
    sits in the mailbox of an idle actor: if the mailbox is not empty the actor has ended (then the mailbox is empty:
    `C03.ended_clean`) or is inside a hook that waits for its own external event. -/
theorem accepted_message_is_not_left_waiting (s : Sys) (hq : quiescent s) (hm : s.mbox ≠ []) :
    s.pc = .ended ∨
    (s.gatePermits = 0 ∧ (s.pc = .starting ∨ (∃ m k, s.pc = .inHandler m k) ∨ ∃ a b c, s.pc = .stopping a b c)) :=
  quiescent_due_has_ended s hq (Or.inr (Or.inr hm))

/-! ### ties to the source: shape lemmas about the tables regenerated from /repo on every run -/
-- @tie Rsactor.Ties.send_paths_shape
-- @tie Rsactor.Ties.timeout_wrappers_shape
-- @tie Rsactor.Ties.lifecycle_arms

end Rsactor.Props.C01
