/-
  C08 — on_run is an idle handler: messages first, Ok(false) disables it for good.
-/
import Rsactor.Inv.Run
import Rsactor.Ties.select_order
import Rsactor.Ties.lifecycle_arms

namespace Rsactor.Props.C08
open Rsactor.Model Rsactor.Monitor

/-- `run_only_when_empty`: whenever the on_run branch is about to be polled, every message that had been
    accepted when this poll checked the mailbox has been taken out of it — a waiting message is always
    handled before on_run is polled again. -/
theorem run_only_when_empty (cap : Nat) (sc : Script) (ls : List Label) (s : Sys)
    (hr : run? (init cap sc) ls = some s) (hpc : s.pc = .selRun) :
    s.taken = s.acceptedAtMail ∧ s.acceptedAtMail ≤ s.accepted.length :=
  (Reachable.of_run hr).runInv.emptyAtRun hpc

/-- `disable_forever` and `err_fails`, on the predicate evaluated on real traces: after Ok(false) no
    on_run future is ever polled again, and after Err the very next hook event is on_stop(false). -/
theorem disable_forever_and_err_fails (cap : Nat) (sc : Script) (ls : List Label) (s : Sys)
    (hr : run? (init cap sc) ls = some s) : C08.disableForeverAndErrFails s.ev = true := by
  have h := (Reachable.of_run hr).runInv
  rw [C08.disableForeverAndErrFails, h.ok, h.noPend]; rfl

/-- the idle flag is cleared by Ok(false) and never set again -/
theorem disabled_stays (cap : Nat) (sc : Script) (ls : List Label) (s : Sys)
    (hr : run? (init cap sc) ls = some s) (hd : (C08.r8 s.ev).disabled = true) : s.idleEnabled = false :=
  (Reachable.of_run hr).runInv.disabled hd

/-- `serving_after_disable`: with on_run disabled the loop still takes messages: the poll parks instead of
    running on_run, and a dequeue is enabled exactly as before. -/
theorem serving_after_disable (s : Sys) (hpc : s.pc = .selRun) (hd : s.idleEnabled = false) :
    step? s .pollRun = some { s with pc := .parked } := by
  simp [step?, hpc, hd]

/-- `continue_rearms`: Ok(true) leaves the idle flag set, so the next idle poll creates a fresh future. -/
theorem continue_rearms (s : Sys) (hpc : s.pc = .selRun) (he : s.idleEnabled = true) (hl : s.runLive = true)
    (hg : 0 < s.gatePermits) (ho : runOutAt s.script (s.runIdx - 1) = .cont) :
    ∃ s', step? s .pollRun = some s' ∧ s'.pc = .selTerm ∧ s'.idleEnabled = true ∧ s'.runLive = false := by
  have : s.gatePermits ≠ 0 := by omega
  simp [step?, Sys.runStep, hpc, he, hl, this, ho]

-- non-vacuity: a message arriving while on_run waits pre-empts it; the next idle poll starts a new future
example : ∃ s, run? (init 2 { runOuts := [.cont, .disable] })
    [.gate, .startDone, .pollTerm, .pollMail, .pollRun, .issue 0 { kind := .tell }, .push 0, .wake, .pollTerm,
     .pollMail, .gate, .handlerDone, .pollTerm, .pollMail, .pollRun] = some s ∧ s.runIdx = 2 := by
  refine ⟨_, rfl, ?_⟩; decide

/-! ### ties to the source -/
-- @tie Rsactor.Ties.select_order
-- @tie Rsactor.Ties.lifecycle_arms

end Rsactor.Props.C08
