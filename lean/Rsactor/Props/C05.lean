/-
  C05 — ActorResult truthfully reports how the actor ended.
-/
import Rsactor.Inv.Result
import Rsactor.Ties.lifecycle_arms

namespace Rsactor.Props.C05
open Rsactor.Model Rsactor.Monitor Rsactor.Extracted

/-- `result_truthful`: in every run, once the JoinHandle resolves, its output is exactly the one the
    hook events dictate — Completed vs Failed, the phase, killed, the failing hook's error (the on_run
    error when both fail), the actor instance carrying every hook that ran (absent only for a start-up
    failure), and a panic in any hook surfaces as a panic JoinError. -/
theorem result_truthful (cap : Nat) (sc : Script) (ls : List Label) (s : Sys)
    (hr : run? (init cap sc) ls = some s) : C05.ok ⟨cap, s.ev⟩ = true := by
  obtain ⟨h1, h2⟩ := (Reachable.of_run hr).resInv
  unfold C05.ok
  by_cases he : s.pc = .ended
  · obtain ⟨o, _, hj, hexp, _⟩ := h2 he
    simp [hj, hexp]
  · obtain ⟨a, _⟩ := h1 he
    simp [a, summAt]

/-- the value stored as the task's result is the one announced by the `joined` event -/
theorem result_is_joined (cap : Nat) (sc : Script) (ls : List Label) (s : Sys)
    (hr : run? (init cap sc) ls = some s) (he : s.pc = .ended) :
    ∃ o, s.result = some o ∧ (C05.summ s.ev).joined = [o] := by
  obtain ⟨_, h2⟩ := (Reachable.of_run hr).resInv
  obtain ⟨o, a, b, _⟩ := h2 he
  exact ⟨o, a, b⟩

/-- `actor_absent_iff`: the actor instance is absent exactly for a start-up failure. -/
theorem actor_absent_iff (m : C05.Summ) (e : ErrSrc) (p : FailurePhase) (k : Bool)
    (h : C05.expectedOf m = some (some (.Failed none e p k))) : m.startErr = true ∧ p = .OnStart := by
  unfold C05.expectedOf at h
  split at h
  · cases h
  · split at h
    · cases h; exact ⟨‹_›, rfl⟩
    · -- on_stop ran: the instance is there
      split at h
      · split at h <;> cases h
      · cases h

/-! ### accessor laws, about the functions translated from `src/actor_result.rs` on every run -/
section accessors
variable {α ε : Type}

theorem is_failed_not_completed (r : ActorResult α ε) : r.is_failed = !r.is_completed := rfl

theorem was_killed_field (r : ActorResult α ε) :
    r.was_killed = (match r with | .Completed _ k => k | .Failed _ _ _ k => k) := by
  rcases r with ⟨_, _ | _⟩ | ⟨_, _, _, _ | _⟩ <;> rfl

theorem stopped_normally_iff (r : ActorResult α ε) :
    r.stopped_normally = (r.is_completed && !r.was_killed) := by
  rcases r with ⟨_, _ | _⟩ | ⟨_, _, _, _ | _⟩ <;> rfl

theorem phase_queries (r : ActorResult α ε) :
    (r.is_startup_failed = (match r with | .Failed _ _ .OnStart _ => true | _ => false)) ∧
    (r.is_runtime_failed = (match r with | .Failed _ _ .OnRun _ => true | .Failed _ _ .OnRunThenOnStop _ => true | _ => false)) ∧
    (r.is_cleanup_failed = (match r with | .Failed _ _ .OnRunThenOnStop _ => true | _ => false)) ∧
    (r.is_stop_failed = (match r with | .Failed _ _ .OnStop _ => true | _ => false)) :=
  ⟨rfl, rfl, rfl, rfl⟩

/-- at most one failure-phase query is true, and none for a completed actor;
    is_cleanup_failed implies is_runtime_failed -/
theorem phase_queries_exclusive (r : ActorResult α ε) :
    (r.is_completed = true → r.is_startup_failed = false ∧ r.is_runtime_failed = false ∧ r.is_stop_failed = false) ∧
    (r.is_cleanup_failed = true → r.is_runtime_failed = true) ∧
    ¬ (r.is_startup_failed = true ∧ r.is_runtime_failed = true) ∧
    ¬ (r.is_startup_failed = true ∧ r.is_stop_failed = true) ∧
    ¬ (r.is_runtime_failed = true ∧ r.is_stop_failed = true) := by
  rcases r with _ | ⟨_, _, _ | _ | _ | _, _⟩ <;>
    simp [ActorResult.is_completed, ActorResult.is_startup_failed, ActorResult.is_runtime_failed,
      ActorResult.is_stop_failed, ActorResult.is_cleanup_failed]

theorem actor_accessors (r : ActorResult α ε) :
    r.actor = r.into_actor ∧ r.has_actor = r.actor.isSome ∧
    r.actor = (match r with | .Completed a _ => some a | .Failed a _ _ _ => a) :=
  ⟨rfl, rfl, rfl⟩

theorem error_accessors (r : ActorResult α ε) :
    r.error = r.into_error ∧
    r.error = (match r with | .Completed _ _ => none | .Failed _ e _ _ => some e) ∧
    (r.error.isSome = r.is_failed) := by
  cases r <;> exact ⟨rfl, rfl, rfl⟩

theorem conversions (r : ActorResult α ε) :
    r.into_tuple = (r.into_actor, r.into_error) ∧
    r.to_result = (match r with | .Completed a _ => .ok a | .Failed _ e _ _ => .error e) := by
  cases r <;> exact ⟨rfl, rfl⟩
end accessors

-- non-vacuity: on_run error followed by an on_stop error is reported as OnRunThenOnStop with the on_run error
example : ∃ s, run? (init 1 { runOuts := [.err], stopOut := .err })
    [.gate, .startDone, .pollTerm, .pollMail, .gate, .pollRun, .gate, .stopDone] = some s ∧
    s.result = some (some (.Failed (some [.start, .run 0, .stop false]) .run .OnRunThenOnStop false)) := by
  refine ⟨_, rfl, ?_⟩; decide

/-! ### ties to the source: shape lemmas about the tables regenerated from /repo on every run -/
-- @tie Rsactor.Ties.lifecycle_arms

end Rsactor.Props.C05
