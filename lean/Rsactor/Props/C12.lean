/-
  C12 — A failing actor fails alone.
-/
import Rsactor.Props.C03
import Rsactor.Props.C04
import Rsactor.Props.C05
import Rsactor.Props.C14
import Rsactor.Ties.feature_sites_shape
import Rsactor.Ties.ask_protocol_shape
import Rsactor.Ties.lifecycle_arms

namespace Rsactor.Props.C12
open Rsactor.Model Rsactor.Monitor

/-- `victim_reports_panic`: a panic in any hook (on_start, the k-th handler, the k-th on_run, on_stop)
    surfaces as a panic JoinError — never as a normal result — and (the lifecycle automaton) nothing
    runs after it: in particular no on_stop after a panic outside on_stop. -/
theorem victim_reports_panic (cap : Nat) (sc : Script) (ls : List Label) (s : Sys)
    (hr : run? (init cap sc) ls = some s) :
    C05.ok ⟨cap, s.ev⟩ = true ∧ C04.accepts s.ev = true ∧ C04.stopIffCause s.ev = true :=
  ⟨C05.result_truthful cap sc ls s hr, C04.hook_language cap sc ls s hr, C04.stop_iff_cause cap sc ls s hr⟩

/-- `victim_senders_get_errors`: once the victim has ended, every operation still in flight on it
    completes (with an error or the reply already sent) and every later send fails at once. -/
theorem victim_senders_get_errors (cap : Nat) (sc : Script) (ls : List Label) (s : Sys)
    (hr : run? (init cap sc) ls = some s) (he : s.pc = .ended) (oid : Nat)
    (hc : s.client oid = .waiting ∨ s.client oid = .awaiting) :
    ∃ ls' s', ls'.length ≤ 2 ∧ run? s ls' = some s' ∧ ∃ r, s'.client oid = .done r :=
  C03.completes cap sc ls s hr he oid hc

open Rsactor.Net in
/-- `deadlock_panic_is_local`: the deliberate panic of the ask that would close a cycle touches nothing
    of the other actors: the wait-for map, every other actor's pending ask and liveness are unchanged; only
    asks that were in flight *to* the panicking actor become lost (their askers then resume with an error). -/
theorem deadlock_panic_is_local (n n' : Net) (a b : Nat) (hs : Net.step? n (.ask a b) = some n')
    (hdl : (a == b || Extracted.has_path n.graph b a) = true) :
    n'.graph = n.graph ∧ n'.busy = n.busy ∧ n'.tokOf = n.tokOf ∧ (∀ x, x ≠ a → n'.dead x = n.dead x) ∧
    (∀ t, (n.asks t).callee ≠ a → n'.asks t = n.asks t) := by
  cases Step.of_step? hs with
  | askCycle => exact ⟨rfl, rfl, rfl, fun x hx => setN_ne hx, fun t ht => if_neg fun e => ht e.1⟩
  | askDead _ _ hc | ask _ _ hc => cases hdl.symm.trans hc

open Rsactor.Net in
/-- `graph_never_corrupted`: whatever mix of panics, deaths, timeouts and cancellations occurs, the
    wait-for map stays exactly the set of unanswered in-flight asks (the invariant of C15 holds in every
    reachable state, including every state after a peer's panic). -/
theorem graph_never_corrupted (ls : List NLabel) (n : Net) (hr : Net.run? Net.init ls = some n) : NInv n :=
  NInv.run hr

open Rsactor.Net in
/-- an actor's death never leaves a survivor waiting on it for ever: asks in flight to it are resumable -/
theorem survivors_not_stuck_on_victim (n n' : Net) (y : Nat) (hs : Net.step? n (.die y) = some n') (t : Nat)
    (hc : (n.asks t).callee = y) (hst : (n.asks t).st = .inflight) (hnb : n.busy y ≠ some t) :
    ∃ n'', Net.step? n' (.resume t) = some n'' :=
  have ⟨n'', h, _⟩ := C14.no_one_left_waiting n' t (.inl (C14.asks_to_dead_are_lost n n' y hs t hc hst hnb))
  ⟨n'', h⟩

-- non-vacuity: a handler panics while an ask is queued behind it: JoinError, no on_stop, the queued ask fails
example : ∃ s, Model.run? (Model.init 2 {})
    [.gate, .startDone, .issue 0 { kind := .tell, hout := .panic }, .push 0, .issue 0 { kind := .ask }, .push 1,
     .pollTerm, .pollMail, .gate, .handlerDone, .recvReply 1] = some s ∧
    s.result = some none ∧ s.client 1 = .done .receive ∧ (s.ev.any isStopStart) = false := by
  refine ⟨_, rfl, ?_, ?_, ?_⟩ <;> decide

/-! ### ties to the source: the lock is released before the deliberate panic and guards tolerate poisoning -/
-- @tie Rsactor.Ties.feature_sites_shape
-- @tie Rsactor.Ties.ask_protocol_shape
-- @tie Rsactor.Ties.lifecycle_arms

end Rsactor.Props.C12
