/-
  C06 — kill() pre-empts the mailbox and never blocks.
-/
import Rsactor.Inv.KillBound
import Rsactor.Inv.Progress
import Rsactor.Ties.select_order
import Rsactor.Ties.kill_stop_shape
import Rsactor.Ties.lifecycle_arms

namespace Rsactor.Props.C06
open Rsactor.Model Rsactor.Monitor

/-- `kill_total`: in every state — full mailbox, busy actor, dead actor, repeated calls — kill() through
    any live strong handle is enabled, completes within its own label with Ok, queues no waiter, and
    records no dead letter. -/
theorem kill_total (s : Sys) (h : Nat) (hh : (h, true) ∈ s.handles) (t : Option Nat) (o : HOut) :
    ∃ s', step? s (.issue h { kind := .kill, timeout := t, hout := o }) = some s' ∧
      s'.client s.nextOid = .done .ok ∧ s'.waiters = s.waiters ∧ s'.dead = s.dead ∧ s'.mbox = s.mbox := by
  rw [step?, Sys.issue, if_pos hh]
  cases s.rxOpen <;> exact ⟨_, rfl, setF_self .., rfl, rfl, rfl⟩

/-- `kill_bound`: in every run, once kill() has been called on an actor that had not begun to stop,
    at most one further message handler starts, no matter how many messages are queued (the one is the
    poll that had already passed the termination branch when the signal landed). -/
theorem kill_bound (cap : Nat) (sc : Script) (ls : List Label) (s : Sys)
    (hr : run? (init cap sc) ls = some s) : C06.killBound s.ev = true :=
  decide_eq_true (Reachable.of_run hr).kbInv.starts_le

/-- while the kill signal is pending and the actor has not begun to stop, the signal is still in the
    control slot: it cannot be lost -/
theorem kill_not_lost (cap : Nat) (sc : Script) (ls : List Label) (s : Sys)
    (hr : run? (init cap sc) ls = some s) (ha : (C06.kb s.ev).armed = true)
    (hn : pcStopped s.pc = false) : s.termSlot = true :=
  Bool.of_not_eq_false fun ht => nomatch hn.symm.trans (((Reachable.of_run hr).kbInv.armed ha).2 ht)

/-- `kill_prompt`: at the next poll of the select the pending signal wins over any number of queued
    messages and over on_run: on_stop(killed = true) begins. -/
theorem kill_prompt (s : Sys) (hpc : s.pc = .selTerm) (ht : s.termSlot = true) :
    ∃ s', step? s .pollTerm = some s' ∧ s'.pc = .stopping true false false ∧ s'.mbox = s.mbox ∧
      s'.ev = s.ev ++ [.termConsumed, .stopStart true] := by
  simp [step?, hpc, ht]

/-- `kill_wins`: "it then runs on_stop(killed=true) ... reports killed=true": from any state in which a kill signal is
    pending and the actor has not begun to stop, whichever step takes the actor into on_stop does so with
    killed = true - also when that step is the loop finding the stop marker or the closed mailbox right after it had
    polled the control channel (it looks at the control channel once more).  The only other way into on_stop is an
    on_run error, a cause of its own.  With `kill_not_lost` (the signal stays pending until then) this holds from the
    moment kill() returns.  Before the repair recorded in known_findings.txt (C06) the marker / closed-mailbox steps
    entered on_stop(killed=false) here; the schedule is in DESIGN.md §13.3. -/
theorem kill_wins (s s' : Sys) (l : Label) (hs : step? s l = some s')
    (hlive : pcStopped s.pc = false) (hkill : s.termSlot = true) (k r m : Bool) (hpc : s'.pc = .stopping k r m) :
    k = true ∨ (l = .pollRun ∧ r = true) := by
  have := (Step.of_step? hs).enters_stopping hpc fun _ _ _ h => by rw [h] at hlive; cases hlive
  rcases this with ⟨_, _, hk⟩ | ⟨_, ht, _⟩ | ⟨_, _, hk, _⟩ | ⟨_, _, _, hk⟩ | ⟨hl, hr, _⟩
  · exact .inl hk
  · rw [hkill] at ht; cases ht
  · exact .inl (hk.trans hkill)
  · exact .inl (hk.trans hkill)
  · exact .inr ⟨hl, hr⟩

-- non-vacuity: a kill that lands after the control channel was polled, with a stop marker at the head of the mailbox
example : ∃ s, run? (init 2 {}) [.gate, .startDone, .issue 0 { kind := .stop }, .push 0, .pollTerm,
      .issue 0 { kind := .kill }, .pollMail] = some s ∧ s.pc = .stopping true false true := by
  refine ⟨_, rfl, ?_⟩; decide

/-- the one exception is reachable (so the bound of one is tight): kill lands after the term branch was polled -/
theorem one_further_handler_reachable :
    ∃ s, run? (init 2 {}) [.gate, .startDone, .issue 0 { kind := .tell }, .push 0, .pollTerm,
      .issue 0 { kind := .kill }, .pollMail] = some s ∧ (C06.kb s.ev).starts = 1 := by
  refine ⟨_, rfl, ?_⟩; decide

/-- `killed_actor_does_not_idle`: in a state in which the runtime has nothing left to run, an actor whose kill signal is
    still pending is not parked in its select and not waiting for mail: it has ended or is inside the hook that was in
    progress (which waits for its own external event).  Together with `kill_not_lost` and `kill_prompt` this is the
    progress half of "runs on_stop(killed=true) as soon as the hook in progress finishes". -/
theorem killed_actor_does_not_idle (s : Sys) (hq : quiescent s) (hk : s.termSlot = true) :
    s.pc = .ended ∨
    (s.gatePermits = 0 ∧ (s.pc = .starting ∨ (∃ m k, s.pc = .inHandler m k) ∨ ∃ a b c, s.pc = .stopping a b c)) :=
  quiescent_due_has_ended s hq (Or.inl hk)

/-! ### ties to the source: shape lemmas about the tables regenerated from /repo on every run -/
-- @tie Rsactor.Ties.select_order
-- @tie Rsactor.Ties.kill_stop_shape
-- @tie Rsactor.Ties.lifecycle_arms

end Rsactor.Props.C06
