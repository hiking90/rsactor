/-
  C18 — Optional features never change messaging or lifecycle behaviour.
-/
import Rsactor.Inv.NetInv
import Rsactor.Model
import Rsactor.Ties.feature_sites_shape
import Rsactor.Ties.metrics_placement_shape
import Rsactor.Ties.ask_protocol_shape
import Rsactor.Ties.lifecycle_arms

namespace Rsactor.Props.C18
open Rsactor.Extracted

/-! ### metrics: the guard's extra reference clone -/
section metrics
open Rsactor.Model

/-- `extra_ref_neutral`: the metrics build keeps one more strong reference (`metrics_ref`) from just before
    the handler call to the end of the arm.  While a handler runs the envelope's own reference is alive, so
    the count of strong references is positive with or without it: every test the model makes on that count
    (`= 0` when the loop looks at the closed control channel, `> 0` for `upgrade` and `is_alive`) has the same
    outcome with any number of extra references. -/
theorem extra_ref_neutral (s : Sys) (m : Nat) (k : Kind) (hpc : s.pc = .inHandler m k) (extra : Nat) :
    (decide (s.strongCount + extra > 0) = decide (s.strongCount > 0)) ∧
    ((s.strongCount + extra = 0) ↔ (s.strongCount = 0)) := by
  have h : s.strongCount > 0 := by simp [Sys.strongCount, hpc, inHandlerRef]; omega
  refine ⟨by simp [h]; omega, ?_⟩
  constructor <;> intro h0 <;> omega

end metrics

/-! ### deadlock-detection: silent unless an ask closes a cycle -/
section detection
open Rsactor.Net

/-- what a program can observe of the protocol state: everything except the wait-for map and its tokens -/
structure Obs where
  asks : Nat → AskRec
  busy : Nat → Option Nat
  dead : Nat → Bool
  nextTok : Nat
  ev : List NEv

def obs (n : Net) : Obs := ⟨n.asks, n.busy, n.dead, n.nextTok, n.ev⟩

/-- the protocol with detection compiled out: no map, no check, a plain reply sender -/
def stepOff (n : Net) : NLabel → Option Net
  | .ask a b =>
    if n.dead a = true ∨ (n.busy a).isSome then none
    else if n.dead b = true then some { n with ev := n.ev ++ [.asked a b 0] }
    else
      let t := n.nextTok
      some { n with asks := setN n.asks t ⟨a, b, .inflight⟩, busy := setN n.busy a (some t),
                    nextTok := t + 1, ev := n.ev ++ [.asked a b t] }
  | .reply t =>
    match (n.asks t).st with
    | .inflight => some { n with asks := setN n.asks t { n.asks t with st := .answered }, ev := n.ev ++ [.replied t] }
    | .abandoned => some { n with ev := n.ev ++ [.replied t] }
    | _ => none
  | .resume t =>
    match (n.asks t).st with
    | .answered | .lost =>
      some { n with asks := setN n.asks t { n.asks t with st := .done }, busy := setN n.busy (n.asks t).caller none,
                    ev := n.ev ++ [.resumed t] }
    | _ => none
  | .giveUp t =>
    match (n.asks t).st with
    | .inflight | .lost | .answered =>
      some { n with asks := setN n.asks t { n.asks t with st := .abandoned }, busy := setN n.busy (n.asks t).caller none,
                    ev := n.ev ++ [.gaveUp t] }
    | _ => none
  | .die y =>
    if n.dead y = true then none
    else
      let n1 : Net :=
        match n.busy y with
        | some t => { n with asks := setN n.asks t { n.asks t with st := .abandoned }, busy := setN n.busy y none }
        | none => n
      some { n1 with dead := setN n1.dead y true, asks := loseTo n1.asks y, ev := n1.ev ++ [.died y] }

/-- the ask would close a cycle of in-flight asks (the only situation in which the detector acts) -/
def closes (n : Net) : NLabel → Bool
  | .ask a b => a == b || has_path n.graph b a
  | _ => false

theorem obs_clear (n : Net) (c t : Nat) : obs (clear n c t) = obs n := by
  rw [clear_eq]; rfl

/-- `detection_silent_without_cycle`: from states that look the same to the program, a step that closes no
    cycle has the same observable effect with detection compiled in (whatever the two switches are) and with
    detection compiled out; in particular it never panics. -/
theorem detection_silent_without_cycle (atReply guard : Bool) (n m : Net) (l : NLabel)
    (ho : obs n = obs m) (hc : closes n l = false) :
    (stepWith atReply guard n l).map obs = (stepOff m l).map obs := by
  -- `m` is `n` with another map, and so is `n` after a `clear`, switched on or off: then both sides compute alike
  obtain ⟨g', tk', rfl⟩ : ∃ g' tk', m = { n with graph := g', tokOf := tk' } := by
    cases n; cases m; cases ho; exact ⟨_, _, rfl⟩
  have hclear (f : Bool) (c t : Nat) : ∃ g, (if f = true then clear n c t else n) = { n with graph := g } := by
    cases f
    · exact ⟨_, rfl⟩
    · exact ⟨_, clear_eq n c t⟩
  cases l with
  | ask a b =>
    simp only [stepWith, stepOff, show (a == b || has_path n.graph b a) = false from hc, Bool.false_eq_true, if_false]
    by_cases h1 : n.dead a = true ∨ (n.busy a).isSome = true
    · rw [if_pos h1, if_pos h1]
    · rw [if_neg h1, if_neg h1]
      by_cases h2 : n.dead b = true
      · rw [if_pos h2, if_pos h2]; rfl
      · rw [if_neg h2, if_neg h2]; rfl
  | reply t =>
    simp only [stepWith, stepOff]
    obtain ⟨g, hg⟩ := hclear atReply (n.asks t).caller t
    rw [hg]
    cases (n.asks t).st <;> rfl
  | resume t | giveUp t =>
    simp only [stepWith, stepOff]
    obtain ⟨g, hg⟩ := hclear guard (n.asks t).caller t
    rw [hg]
    cases (n.asks t).st <;> rfl
  | die y =>
    simp only [stepWith, stepOff]
    by_cases hd : n.dead y = true
    · rw [if_pos hd, if_pos hd]
    · rw [if_neg hd, if_neg hd]
      cases n.busy y with
      | none => rfl
      | some t =>
        obtain ⟨g, hg⟩ := hclear guard y t
        simp only [hg]
        rfl

/-- hence along any run in which no ask closes a cycle the two protocols stay observably equal, step by step -/
theorem detection_silent_run (ls : List NLabel) (n m : Net) (ho : obs n = obs m)
    (hfree : ∀ (pre : List NLabel) (l : NLabel) (n' : Net), pre ++ [l] <+: ls → Net.run? n pre = some n' → closes n' l = false) :
    ∀ n', Net.run? n ls = some n' → ∃ m', (ls.foldlM (fun s l => stepOff s l) m) = some m' ∧ obs n' = obs m' := by
  induction ls generalizing n m with
  | nil => intro n' h; cases h; exact ⟨m, rfl, ho⟩
  | cons l ls ih =>
    intro n' h
    simp only [Net.run?] at h
    split at h
    · cases h
    · rename_i n1 hs
      have hstep := detection_silent_without_cycle edge_removed_at_reply guard_removes_on_drop n m l ho
        (hfree [] l n ((List.prefix_cons_inj l).mpr List.nil_prefix) rfl)
      rw [show stepWith edge_removed_at_reply guard_removes_on_drop n l = some n1 from hs] at hstep
      obtain ⟨m1, hm, ho1⟩ := Option.map_eq_some_iff.mp hstep.symm
      obtain ⟨m', hm', ho'⟩ := ih n1 m1 ho1.symm
        (fun pre l' n'' hp hr => hfree (l :: pre) l' n'' ((List.prefix_cons_inj l).mpr hp) (by simp only [Net.run?, hs, hr]))
        n' h
      exact ⟨m', by rw [List.foldlM_cons, hm]; exact hm', ho'⟩

end detection

-- non-vacuity: A asks B, B answers, A resumes, then B asks A: no cycle at any point, and both protocols agree
example : closes Net.init (Net.NLabel.ask 1 2) = false ∧
    (Net.run? Net.init [Net.NLabel.ask 1 2, Net.NLabel.reply 1, Net.NLabel.resume 1, Net.NLabel.ask 2 1]).isSome = true ∧
    ((Net.run? Net.init [Net.NLabel.ask 1 2, Net.NLabel.reply 1, Net.NLabel.resume 1]).map
      (fun n => closes n (Net.NLabel.ask 2 1))) = some false := by decide

/-! ### ties to the source -/
-- @tie Rsactor.Ties.feature_sites_shape
-- @tie Rsactor.Ties.metrics_placement_shape
-- @tie Rsactor.Ties.ask_protocol_shape
-- @tie Rsactor.Ties.lifecycle_arms

end Rsactor.Props.C18
