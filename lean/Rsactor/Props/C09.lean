/-
  C09 — Mailbox capacity is a hard bound with waiting (not dropping) back-pressure.
-/
import Rsactor.Ties.send_paths_shape
import Rsactor.Inv.Progress
import Rsactor.Inv.OkStop

namespace Rsactor.Props.C09
open Rsactor.Model Rsactor.Extracted

/-- `bound`: for every schedule, every number of senders and every capacity, the items accepted
    but not yet taken (stop markers included) plus the slots reserved by senders that hold a permit
    never exceed the capacity the actor was spawned with. -/
theorem bound (cap : Nat) (sc : Script) (ls : List Label) (s : Sys)
    (hr : run? (init cap sc) ls = some s) :
    s.mbox.length + grantedCount s.waiters ≤ cap :=
  Nat.le_trans (capacity_bound cap sc ls s hr) (Nat.le_of_eq (cap_run hr))

/-- the channel is created with exactly the requested capacity (translated from `spawn_with_mailbox_capacity`) -/
theorem cap_is_request (n : Nat) : mailbox_chan_cap n = n := rfl

/-- `spawn` uses the configured default, else 32 -/
theorem default_capacity (cfg : Option Nat) : spawn_capacity cfg = cfg.getD 32 := rfl

/-- capacity 0 is rejected at spawn (the `assert!`), every other capacity is accepted -/
theorem zero_rejected (n : Nat) : spawn_guard n = true ↔ 0 < n := by
  simp [spawn_guard]

/-- the process-wide default can be set exactly once, with a non-zero value -/
theorem set_once (cfg : Option Nat) (n : Nat) :
    (set_default_mailbox_capacity cfg n).1 = .ok () ↔ (0 < n ∧ cfg = none) := by
  unfold set_default_mailbox_capacity
  cases cfg <;> cases n <;> simp

/-- a successful call stores the value; a failed one leaves the cell untouched -/
theorem set_effect (cfg : Option Nat) (n : Nat) :
    (set_default_mailbox_capacity cfg n).2 = (if 0 < n ∧ cfg = none then some n else cfg) := by
  unfold set_default_mailbox_capacity
  cases cfg <;> cases n <;> simp

/-- once set, no sequence of later calls changes it -/
theorem set_stable (m : Nat) (ns : List Nat) :
    ns.foldl (fun c n => (set_default_mailbox_capacity c n).2) (some m) = some m := by
  induction ns with
  | nil => rfl
  | cons n ns ih =>
    simp only [List.foldl_cons]
    rw [set_effect]
    simpa using ih

/-- `free_slot_no_wait`: "a send never waits while a slot is free" - a tell / ask / stop() issued on an open mailbox
    with a free slot (and nobody queued ahead of it without a permit) holds its permit at once: its next step
    is the push. -/
theorem free_slot_no_wait (s : Sys) (h : Nat) (op : OpSpec) (it : Item) (hh : (h, true) ∈ s.handles)
    (hit : opItem s.nextOid op.kind = some it) (ho : s.rxOpen = true)
    (hroom : s.mbox.length + grantedCount s.waiters < s.cap) (hall : s.waiters.all (·.granted) = true) :
    ∃ s', step? s (.issue h op) = some s' ∧ ⟨s.nextOid, it, true, true⟩ ∈ s'.waiters ∧
      s'.client s.nextOid = .waiting ∧ s'.dead = s.dead := by
  simp only [step?, Sys.issue, hh, if_true, hit, ho, not_true_eq_false, if_false, hroom, hall, and_self]
  exact ⟨_, rfl, by simp, by simp [setF], rfl⟩

/-- `full_mailbox_waits`: "a send into a full mailbox waits rather than failing, overwriting or dropping" - issued
    on an open mailbox without a free slot, the operation is queued (FIFO, behind earlier senders), nothing is
    recorded as failed, and the mailbox content is untouched. -/
theorem full_mailbox_waits (s : Sys) (h : Nat) (op : OpSpec) (it : Item) (hh : (h, true) ∈ s.handles)
    (hit : opItem s.nextOid op.kind = some it) (ho : s.rxOpen = true)
    (hfull : ¬ (s.mbox.length + grantedCount s.waiters < s.cap ∧ s.waiters.all (·.granted) = true)) :
    ∃ s', step? s (.issue h op) = some s' ∧ s'.waiters = s.waiters ++ [⟨s.nextOid, it, false, false⟩] ∧
      s'.client s.nextOid = .waiting ∧ s'.dead = s.dead ∧ s'.mbox = s.mbox := by
  simp only [step?, Sys.issue, hh, if_true, hit, ho, not_true_eq_false, if_false, hfull]
  exact ⟨_, rfl, by simp, by simp [setF], rfl, rfl⟩

/-- `no_idle_slot`: "a send never waits while a slot is free", as a fact about every reachable state: while the mailbox is
    open, if any sender is queued without a permit then every slot is occupied or promised - items in the mailbox plus
    permits handed out equal the capacity. -/
theorem no_idle_slot (cap : Nat) (sc : Script) (ls : List Label) (s : Sys)
    (hr : run? (init cap sc) ls = some s) (ho : s.rxOpen = true) (hu : ∃ w ∈ s.waiters, w.granted = false) :
    s.mbox.length + grantedCount s.waiters = cap :=
  -- no more than the capacity (`bound`), and no less while somebody waits
  (Nat.le_antisymm (capacity_bound cap sc ls s hr) ((Reachable.of_run hr).noIdleSlot ho hu)).trans (cap_run hr)

/-- `ok_tell_was_accepted`: "a send waits, it is not dropped", seen from the caller: in every reachable state, a tell
    that has returned Ok went into the channel - its `accepted` event is in the history - or, in the one window in
    which that cannot be (the actor dropped its receivers while the sender already held its slot), the actor has
    ended and the message lies in the closed channel.  No Ok is ever reported for a message that is nowhere.
    (The trace monitor `C09.okMeansAccepted` checks the same, with the order of the two events, on every real trace.) -/
theorem ok_tell_was_accepted (cap : Nat) (sc : Script) (ls : List Label) (s : Sys)
    (hr : run? (init cap sc) ls = some s) (oid a : Nat) (hret : Ev.ret oid .ok a ∈ s.ev)
    (hk : (s.spec oid).kind = .tell) :
    (∃ i, Ev.accepted oid i ∈ s.ev) ∨ (s.rxOpen = false ∧ Item.env oid .tell ∈ s.stranded) :=
  (ok_run cap sc ls s hr oid a hret hk).imp_right fun h =>
    ⟨(Reachable.of_run hr).strandedClosed (List.ne_nil_of_mem h), h⟩

-- the premises are satisfiable: a tell accepted by a running actor has returned Ok after its `accepted` event
example : ∃ s, run? (init 1 {}) [.gate, .startDone, .issue 0 { kind := .tell }, .push 0] = some s ∧
    Ev.ret 0 .ok 0 ∈ s.ev ∧ Ev.accepted 0 0 ∈ s.ev := by
  refine ⟨_, rfl, ?_, ?_⟩ <;> decide

/-- `send_error_only_after_end`: "a send waits, it is never refused": in every reachable state, an operation that was
    answered with Err(Send) was answered after the actor's task had finished (`joined` is in the history). A running
    actor - full mailbox or not, stop pending or not - never turns a sender away; it makes it wait.
    (The trace monitor `C09.failOnlyWhenClosed` checks the same, with the order of the events, on every real trace.) -/
theorem send_error_only_after_end (cap : Nat) (sc : Script) (ls : List Label) (s : Sys)
    (hr : run? (init cap sc) ls = some s) (oid a : Nat) (hret : Ev.ret oid .send a ∈ s.ev) :
    ∃ o, Ev.joined o ∈ s.ev :=
  (send_run cap sc ls s hr).2 oid a hret

/-- `ok_stop_was_accepted_or_closed`: stop() is a send like any other: in every reachable state, a stop() that has
    returned Ok put its marker into the mailbox (its `accepted` event is in the history) or met an actor whose task
    had already finished (`joined` is in the history; that covers the marker pushed into a channel whose receivers
    were just dropped).  A stop() never reports Ok for a marker that went nowhere while the actor runs on.
    (This is the stop() clause of the trace monitor `C09.okMeansAccepted`.) -/
theorem ok_stop_was_accepted_or_closed (cap : Nat) (sc : Script) (ls : List Label) (s : Sys)
    (hr : run? (init cap sc) ls = some s) (oid a : Nat) (hret : Ev.ret oid .ok a ∈ s.ev)
    (hk : (s.spec oid).kind = .stop) :
    (∃ i, Ev.accepted oid i ∈ s.ev) ∨ (∃ o, Ev.joined o ∈ s.ev) :=
  -- a marker lying in the closed channel: the channel is closed only once the task has finished
  (stop_ok_run cap sc ls s hr oid a hret hk).imp_right fun h =>
    h.elim (fun h => (send_run cap sc ls s hr).1 ((Reachable.of_run hr).strandedClosed (List.ne_nil_of_mem h))) id

/-- the control channel holds exactly one signal -/
theorem term_channel_capacity : term_chan_cap = 1 := rfl

-- the premises are satisfiable: a capacity-1 mailbox with one queued item and a blocked sender
example : ∃ s, run? (init 1 {}) [.gate, .startDone, .issue 0 { kind := .tell }, .push 0,
      .issue 0 { kind := .tell }] = some s ∧ s.mbox.length = 1 ∧ s.waiters.length = 1 := by
  refine ⟨_, rfl, ?_, ?_⟩ <;> decide

/-! ### ties to the source: shape lemmas about the tables regenerated from /repo on every run -/
-- @tie Rsactor.Ties.send_paths_shape

end Rsactor.Props.C09
