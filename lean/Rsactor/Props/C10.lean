/-
  C10 — Timeouts are exact: never early, never masking other outcomes.
-/
import Rsactor.Inv.Time
import Rsactor.Ties.timeout_wrappers_shape
import Rsactor.Ties.forwarders_verbatim

namespace Rsactor.Props.C10
open Rsactor.Model Rsactor.Monitor Rsactor.Extracted

/-- `never_early`: in every run, `Err(Timeout)` is returned only by an operation that was given a
    timeout, and only at a clock value ≥ (issue instant + timeout). -/
theorem never_early (cap : Nat) (sc : Script) (ls : List Label) (s : Sys)
    (hr : run? (init cap sc) ls = some s) : C10.neverEarly s.ev = true := by
  refine List.all_eq_true.mpr fun e he => ?_
  split
  · obtain ⟨k, d0, a, ho, hle⟩ := (Reachable.of_run hr).timeInv.timeout_ret (Reachable.of_run hr).idsInv he
    rw [ho]
    exact decide_eq_true hle
  · rfl

/-- `timeout_fire_guard`: the timer label is enabled only once the deadline has been reached. -/
theorem timeout_fire_guard (s s' : Sys) (oid : Nat) (h : step? s (.timeoutFire oid) = some s') :
    ∃ d, s.deadline oid = some d ∧ d ≤ s.clock := by
  cases (Step.of_step? h).toClient rfl with
  | timeoutSend _ d _ _ _ hd hle | timeoutAsk _ d hd hle => exact ⟨d, hd, hle⟩

/-- `retryable`: Timeout is the only retryable error (function translated from src/error.rs). -/
theorem retryable (e : ErrorKind) : e.is_retryable = true ↔ e = .Timeout := by
  cases e <;> simp [ErrorKind.is_retryable]

/-- `timeout_only_while_pending` ("never masking"): whatever the schedule, the step that produces `Err(Timeout)` is
    enabled only while the operation itself is incomplete - a send still queued for a permit on an open mailbox, or an
    ask whose reply has neither been sent nor been lost.  An operation that completed before its caller is polled
    (reply there, permit assigned, mailbox closed) reports that outcome, however late the poll and however long ago
    the deadline passed: `tokio::time::timeout` polls the operation before the timer (timeout_wrappers_shape). -/
theorem timeout_only_while_pending (s s' : Sys) (oid : Nat) (h : step? s (.timeoutFire oid) = some s') :
    (s.client oid = .waiting ∧ s.rxOpen = true ∧
      ∃ w, s.waiters.find? (fun w => w.oid = oid) = some w ∧ w.granted = false) ∨
    (s.client oid = .awaiting ∧ s.reply oid ≠ .sent ∧ s.reply oid ≠ .dropped ∧
      ¬ (s.rxOpen = false ∧ Extracted.ask_wait_watches_closed = true)) := by
  -- `step?` itself, not `Step`: the statement names the waiter that `find?` yields
  rw [step?] at h
  split at h
  · replace h := (Option.ite_none_left_eq_some.mp h).2
    split at h
    · split at h
      · have hg := (Option.ite_none_left_eq_some.mp h).1
        exact .inl ⟨‹_›, Decidable.of_not_not fun h => hg (.inr h), _, ‹_›, Bool.eq_false_iff.mpr fun h => hg (.inl h)⟩
      · cases h
    · have hg := (Option.ite_none_left_eq_some.mp h).1
      exact .inr ⟨‹_›, fun h => hg (.inl h), fun h => hg (.inr (.inl h)),
        fun h => hg (.inr (.inr ⟨Bool.eq_false_iff.mp h.1, h.2⟩))⟩
    · cases h
  · cases h

/-- `timeout_only_from_timer`: no other step makes an operation return `Err(Timeout)` -/
theorem timeout_only_from_timer (s s' : Sys) (l : Label) (oid t : Nat) (hs : step? s l = some s')
    (hnew : Ev.ret oid .timeout t ∈ s'.ev) (hold : Ev.ret oid .timeout t ∉ s.ev) : l = .timeoutFire oid := by
  rcases (Step.of_step? hs).client_or_frame with hc | hf
  · -- of the client steps only the two timer steps log a returned Timeout
    cases hc <;> simp [issueBase, hold] at hnew <;> rw [hnew.1]
  · exact absurd (hf.ev.mem rfl hnew) hold

/-- failures other than a timeout are reported as themselves, at once: on a closed mailbox the queued sender's next
    poll returns Err(Send) whether or not a deadline is set or has passed -/
theorem send_failure_not_delayed (s : Sys) (oid : Nat) (w : Waiter) (mid : Nat) (k : Kind)
    (hf : s.waiters.find? (fun w => decide (w.oid = oid) && !w.acq) = some w) (hc : s.rxOpen = false)
    (hi : w.item = .env mid k) :
    step? s (.grantWake oid) = some ({ s with waiters := s.waiters.erase w }.complete oid .send (some .actorStopped)) := by
  simp [step?, hf, hc, Sys.failSend, hi]

/-- ... and a lost reply is reported as Err(Receive) at the asker's next poll, before any deadline -/
theorem lost_reply_not_delayed (s : Sys) (oid : Nat) (hc : s.client oid = .awaiting) (hr : s.reply oid = .dropped) :
    step? s (.recvReply oid) = some (s.complete oid .receive (some .replyDropped)) := by
  simp [step?, hc, hr]

-- non-vacuity of "never masking": the reply to a timed ask is sent before the deadline, the asker is polled long
-- after it: the timer step is refused, the asker's poll returns the reply
example : ∃ s, run? (init 1 {})
    [.gate, .startDone, .issue 0 { kind := .ask, timeout := some 5 }, .push 0, .pollTerm, .pollMail,
     .gate, .handlerDone, .advance 50] = some s ∧
    step? s (.timeoutFire 0) = none ∧
    ∃ s', step? s (.recvReply 0) = some s' ∧ Ev.ret 0 (.reply 0) 50 ∈ s'.ev := by
  refine ⟨_, rfl, by decide, _, rfl, by decide⟩

-- non-vacuity: a timed tell blocked on a full mailbox times out at exactly issue + 25
example : ∃ s, run? (init 1 {})
    [.gate, .startDone, .issue 0 { kind := .tell }, .push 0, .advance 10,
     .issue 0 { kind := .tell, timeout := some 25 }, .advance 25, .timeoutFire 1] = some s ∧
    Ev.ret 1 .timeout 35 ∈ s.ev := by
  refine ⟨_, rfl, ?_⟩; decide

/-! ### ties to the source: shape lemmas about the tables regenerated from /repo on every run -/
-- @tie Rsactor.Ties.timeout_wrappers_shape
-- @tie Rsactor.Ties.forwarders_verbatim

end Rsactor.Props.C10
