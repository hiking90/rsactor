/-
  C02 — Handling order respects mailbox acceptance order (per sender and global).
-/
import Rsactor.Props.C01
import Rsactor.Ties.send_paths_shape
import Rsactor.Ties.lifecycle_arms

namespace Rsactor.Props.C02
open Rsactor.Model Rsactor.Monitor

/-- `fifo`: in every run, the handler starts, in order, are exactly the envelopes among the first
    `taken` items of the acceptance log, and (while the receiver lives) the mailbox is the rest of
    that log: dequeue order = acceptance order for every mix of operations, the stop marker included. -/
theorem fifo (cap : Nat) (sc : Script) (ls : List Label) (s : Sys)
    (hr : run? (init cap sc) ls = some s) :
    startedMids s.ev = envIds (s.accepted.take s.taken) ∧
    (s.rxOpen = true → s.mbox = s.accepted.drop s.taken) :=
  ⟨(Reachable.of_run hr).fifoInv.started, (Reachable.of_run hr).fifoInv.mbox_open⟩

/-- the acceptance log never loses or reorders anything: it only grows at its end -/
theorem accepted_grows (s s' : Sys) (l : Label) (hs : step? s l = some s') :
    ∃ suffix, s'.accepted = s.accepted ++ suffix :=
  (Step.of_step? hs).accepted_grows

/-- an item is accepted at most once, so positions in the log are well defined -/
theorem accepted_once (cap : Nat) (sc : Script) (ls : List Label) (s : Sys)
    (hr : run? (init cap sc) ls = some s) : (accOids s).Nodup :=
  (Reachable.of_run hr).idsInv.accNodup

/-- `before_stop_handled`: once the loop has dequeued the stop marker at position k of the acceptance log,
    every message accepted before it (position < k) has had its handler started - stop() takes its place
    in the order. -/
theorem before_stop_handled (cap : Nat) (sc : Script) (ls : List Label) (s : Sys)
    (hr : run? (init cap sc) ls = some s) (k o : Nat) (_hk : s.accepted[k]? = some (.stop o))
    (ht : s.taken = k + 1) (i : Nat) (hi : i < k) (m : Nat) (kd : Kind)
    (ha : s.accepted[i]? = some (.env m kd)) : m ∈ startedMids s.ev :=
  C01.graceful_complete cap sc ls s hr i (by omega) m kd ha

/-- `after_stop_never_handled`: in every reachable state, a message accepted behind a stop marker
    (position > k) has not been handled - and never will be, since this holds in every later state too.
    A stop() call returns when its marker has been accepted, so nothing accepted after stop() returned
    is ever handled. -/
theorem after_stop_never_handled (cap : Nat) (sc : Script) (ls : List Label) (s : Sys)
    (hr : run? (init cap sc) ls = some s) (k o : Nat) (hk : s.accepted[k]? = some (.stop o))
    (i : Nat) (hi : k < i) (m : Nat) (kd : Kind) (ha : s.accepted[i]? = some (.env m kd)) :
    m ∉ startedMids s.ev := by
  have hreach := Reachable.of_run hr
  -- the dequeue pointer has not passed the marker, and the oid `m` sits at position `i` only
  have hbound : s.taken ≤ k + 1 := by rcases hreach.marker hk with h | ⟨h, _⟩ <;> omega
  intro hmem
  obtain ⟨_, j, hj, haj⟩ := hreach.fifoInv.started_iff.mp hmem
  have := hreach.idsInv.acc_inj haj ha rfl
  omega

/-- `nothing_after_stop_begins`: from the moment the loop leaves its select for good (on_stop is running or
    the task has ended, whatever the cause) no handler starts any more. -/
theorem nothing_after_stop_begins (cap : Nat) (sc : Script) (ls ls' : List Label) (s s' : Sys)
    (hr : run? (init cap sc) ls = some s) (hp : isStopping s.pc = true) (hr' : run? s ls' = some s') :
    startedMids s'.ev = startedMids s.ev := by
  have hf := (Reachable.of_run hr).fifoInv
  have hf' := ((Reachable.of_run hr).run hr').fifoInv
  -- nothing is dequeued any more, and the acceptance log of s is a prefix of that of s'
  obtain ⟨ht, _⟩ := taken_frozen_run hr' hp
  obtain ⟨suf, hsuf⟩ := accepted_grows_run hr'
  rw [hf'.started, hf.started, ht, hsuf, List.take_append_of_le_length hf.taken_le]

-- non-vacuity: two senders, capacity 1: the second push waits for the dequeue and is handled second
example : ∃ s, run? (init 1 {})
    [.gate, .startDone, .issue 0 { kind := .tell }, .push 0, .issue 0 { kind := .ask },
     .pollTerm, .pollMail, .grantWake 1, .push 1, .gate, .handlerDone, .pollTerm, .pollMail] = some s ∧
    startedMids s.ev = [0, 1] := by
  refine ⟨_, rfl, ?_⟩; decide

/-! ### ties to the source: shape lemmas about the tables regenerated from /repo on every run -/
-- @tie Rsactor.Ties.send_paths_shape
-- @tie Rsactor.Ties.lifecycle_arms

end Rsactor.Props.C02
