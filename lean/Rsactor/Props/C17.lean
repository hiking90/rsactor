/-
  C17 — Blocking API is the async API seen from a thread.
-/
import Rsactor.Props.C01
import Rsactor.Props.C03
import Rsactor.Props.C13
import Rsactor.Ties.blocking_dispatch_shape
import Rsactor.Ties.send_paths_shape
import Rsactor.Ties.timeout_wrappers_shape
import Rsactor.Ties.reply_wait_shape
import Rsactor.Ties.dead_letter_census

namespace Rsactor.Props.C17
open Rsactor.Model Rsactor.Extracted

/-- `aliases`: tell_blocking / ask_blocking delegate to blocking_tell / blocking_ask with the timeout
    ignored, and the dispatchers select the timeout / no-timeout implementation (extracted). -/
theorem aliases : blocking_dispatch.all (·.2) = true := Ties.blocking_dispatch_shape.1

/-- `blocking_same_paths`: the no-timeout blocking variants build the same envelope (same reply channel
    discipline, same embedded strong reference) and push into the same mailbox sender as tell / ask; the
    timeout variants run the very same `tell` / `ask` under `tokio::time::timeout` on a helper thread that
    has a timer runtime.  Hence a blocking operation is, for the actor and the mailbox, an `issue` label of
    the model like any other: -/
theorem blocking_same_paths :
    (send_paths.filter (fun p => p.call == .blockingSend)).map (fun p => (p.kind, p.replyChannel, p.embedsStrongRef)) =
      [(.tell, false, true), (.ask, true, true)] ∧
    (send_paths.filter (fun p => p.call == .send)).map (fun p => (p.kind, p.replyChannel, p.embedsStrongRef)) =
      [(.tell, false, true), (.ask, true, true), (.stop, false, true)] ∧
    (timeout_wrappers.filter (fun w => w.1 == "blocking_tell_with_timeout_impl" || w.1 == "blocking_ask_with_timeout_impl")).map
      (fun w => (w.2.1, w.2.2.1, w.2.2.2.2.2.2)) = [("tell", true, true), ("ask", true, true)] := by decide

/-- hence every theorem about delivery, order, reply integrity, errors and dead letters — stated for
    every label list, i.e. for every mix of clients whatever thread they run on — covers the blocking
    callers too; instances: -/
theorem blocking_inherits (cap : Nat) (sc : Script) (ls : List Label) (s : Sys)
    (hr : run? (init cap sc) ls = some s) :
    Monitor.C01.atMostOnce s.ev = true ∧ Monitor.C01.rejectedNever s.ev = true ∧
    Monitor.C03.replyIntegrity s.ev = true ∧ Monitor.C13.paired s.ev = true :=
  ⟨C01.at_most_once cap sc ls s hr, C01.rejected_never_monitor cap sc ls s hr,
   C03.reply_integrity cap sc ls s hr, (C13.dead_exact cap sc ls s hr).1⟩

/-! ### ties to the source -/
-- @tie Rsactor.Ties.blocking_dispatch_shape
-- @tie Rsactor.Ties.send_paths_shape
-- @tie Rsactor.Ties.timeout_wrappers_shape
-- @tie Rsactor.Ties.reply_wait_shape
-- @tie Rsactor.Ties.dead_letter_census

end Rsactor.Props.C17
