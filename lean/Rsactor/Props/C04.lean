/-
  C04 — Lifecycle hooks run in order: on_start once, work, then on_stop at most once.
-/
import Rsactor.Inv.StepFacts
import Rsactor.Inv.Life
import Rsactor.Inv.Result
import Rsactor.Inv.Kill
import Rsactor.Ties.lifecycle_arms
import Rsactor.Ties.select_order

namespace Rsactor.Props.C04
open Rsactor.Model Rsactor.Monitor

/-- `hook_language`: in every run the actor's hook events are a word of the lifecycle automaton
    start(ok)·(handler | run)*·stop?·joined  |  start(err|panic)·joined  — on_start completes first,
    handlers never overlap, on_stop is entered at most once and nothing but its end and the join
    follows it; a panic is followed by nothing but the join. -/
theorem hook_language (cap : Nat) (sc : Script) (ls : List Label) (s : Sys)
    (hr : run? (init cap sc) ls = some s) : C04.accepts s.ev = true :=
  congrArg Option.isSome (Reachable.of_run hr).phFold_eq

/-- the automaton state is determined by the actor's program counter: the model never is "in two hooks" -/
theorem phase_of_pc (cap : Nat) (sc : Script) (ls : List Label) (s : Sys)
    (hr : run? (init cap sc) ls = some s) : phFold s.ev = some (phOf s.pc) :=
  (Reachable.of_run hr).phFold_eq

/-- `killed_only_if_kill`: on_stop receives killed = true only after a kill() was issued. -/
theorem killed_only_if_kill (cap : Nat) (sc : Script) (ls : List Label) (s : Sys)
    (hr : run? (init cap sc) ls = some s) : C04.killedOnlyIfKill s.ev = true :=
  (Reachable.of_run hr).kInv.1

/-- `killed_iff_consumed`: on_stop(killed = true) begins in exactly the step that consumes the kill
    signal - the poll of the control channel, or the second look at it when the loop has just found the stop
    marker or the closed mailbox; every other way of reaching on_stop passes killed = false. -/
theorem killed_iff_consumed (s s' : Sys) (l : Label) (hs : step? s l = some s')
    (k r m : Bool) (hpc : s'.pc = .stopping k r m) (hnot : ∀ k r m, s.pc ≠ .stopping k r m) :
    (k = true ↔ ((l = .pollTerm ∨ l = .pollMail) ∧ s.termSlot = true)) := by
  rcases (Step.of_step? hs).enters_stopping hpc hnot with
    ⟨rfl, ht, rfl⟩ | ⟨rfl, ht, _, rfl⟩ | ⟨rfl, _, rfl, _⟩ | ⟨rfl, _, _, rfl⟩ | ⟨rfl, _, rfl⟩ <;> simp [*]

/-- `stop_iff_cause`: when the JoinHandle resolves, on_stop has run iff the actor ended by graceful
    stop, kill, loss of references or on_run error — not after a failed on_start, and after a panic only
    if the panic happened inside on_stop. -/
theorem stop_iff_cause (cap : Nat) (sc : Script) (ls : List Label) (s : Sys)
    (hr : run? (init cap sc) ls = some s) : C04.stopIffCause s.ev = true := by
  obtain ⟨h1, h2⟩ := (Reachable.of_run hr).resInv
  unfold C04.stopIffCause
  by_cases he : s.pc = .ended
  · obtain ⟨o, _, hj, hexp, hf1, hf2⟩ := h2 he
    simp only [hj]
    -- along the tests of `expectedOf`: a panic, a failed on_start, on_stop called and returned
    unfold C05.expectedOf at hexp
    split at hexp
    · cases hexp; simpa [‹(C05.summ s.ev).panic = true›] using hf2
    · split at hexp
      · cases hexp; simpa [‹(C05.summ s.ev).startErr = true›] using hf1
      · split at hexp
        · rename_i so hk _
          obtain rfl := Option.some.inj hexp
          cases (C05.summ s.ev).runErr <;> cases so <;> simp [hk]
        · cases hexp
  · obtain ⟨a, _⟩ := h1 he
    simp [a, summAt]

-- non-vacuity: stop during on_start, then the marker is dequeued and on_stop(false) runs once
example : ∃ s, run? (init 2 {})
    [.issue 0 { kind := .stop }, .push 0, .gate, .startDone, .pollTerm, .pollMail, .gate, .stopDone] = some s ∧
    C04.accepts s.ev = true ∧ Ev.stopStart false ∈ s.ev := by
  refine ⟨_, rfl, ?_, ?_⟩ <;> decide

/-! ### ties to the source: shape lemmas about the tables regenerated from /repo on every run -/
-- @tie Rsactor.Ties.lifecycle_arms
-- @tie Rsactor.Ties.select_order

end Rsactor.Props.C04
