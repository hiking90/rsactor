/-
  C11 — Identity is unique and stable; is_alive / upgrade tell the truth.
-/
import Rsactor.Inv.Handles
import Rsactor.Props.C03
import Rsactor.Props.C07
import Rsactor.Ties.handle_algebra_shape
import Rsactor.Ties.spawn_shape
import Rsactor.Ties.forwarders_verbatim

namespace Rsactor.Props.C11
open Rsactor.Model Rsactor.Extracted

/-- the ids handed to the first `n` spawns of a process: one atomic `fetch_add(step)` each on a counter
    that starts at `start` (both read from src/lib.rs on every run); the k-th is `start + k * step` -/
def ids (n : Nat) : List Nat := List.range' actor_id_start n actor_id_step

/-- `ids_unique`: however the spawns of a process are interleaved (each is one atomic fetch_add), the
    ids handed out are pairwise distinct, for any number of actors. -/
theorem ids_unique (n : Nat) : (ids n).Nodup :=
  List.nodup_range' (step := actor_id_step) (h := by decide)

theorem id_of_kth (n k : Nat) (hk : k < n) : (ids n)[k]'(by simp [ids]; exact hk) = actor_id_start + actor_id_step * k := by
  simp [ids, List.getElem_range']

/-- `alive_true`: is_alive() on a strong handle answers `true` as long as the actor has not ended
    (so from spawn until it begins to end), … -/
theorem alive_true (cap : Nat) (sc : Script) (ls : List Label) (s s' : Sys)
    (hr : run? (init cap sc) ls = some s) (h : Nat) (hh : (h, true) ∈ s.handles) (hne : s.pc ≠ .ended)
    (hs : step? s (.probeAlive h) = some s') : Ev.probeAlive h true ∈ s'.ev := by
  cases (Step.of_step? hs).toOwner rfl with
  | probe _ st =>
    -- the handle found under id `h` could be a weak one with the same id only if ids were reused; whichever
    -- was found, the mailbox is open and a strong handle exists: either answer is `true`
    have : (if st then s.rxOpen else decide (s.strongCount > 0)) = true := by
      cases st
      · exact decide_eq_true (strongCount_pos hh)
      · exact (Reachable.of_run hr).open_of_live hne
    exact List.mem_append_right _ (List.mem_singleton.mpr (congrArg (Ev.probeAlive h) this.symm))

/-- … and `alive_false`: once the JoinHandle has resolved it answers `false`. -/
theorem alive_false (cap : Nat) (sc : Script) (ls : List Label) (s s' : Sys)
    (hr : run? (init cap sc) ls = some s) (h : Nat) (hf : s.handles.find? (·.1 = h) = some (h, true))
    (he : s.pc = .ended) (hs : step? s (.probeAlive h) = some s') : Ev.probeAlive h false ∈ s'.ev := by
  have hc := (Reachable.of_run hr).closed_iff.mpr he
  simp only [step?, hf] at hs
  cases hs; simp [hc]

/-- after the JoinHandle has resolved every send fails at once (Send), see `C03.later_fail` -/
theorem sends_fail_after_end (s : Sys) (hc : s.rxOpen = false) (h : Nat) (hh : (h, true) ∈ s.handles) (op : OpSpec) :
    ∃ s', step? s (.issue h op) = some s' ∧
      s'.client s.nextOid = .done (match op.kind with | .tell => .send | .ask => .send | _ => .ok) :=
  C03.later_fail s hc h hh op

/-- `upgrade_iff`: ActorWeak::upgrade returns a reference exactly while some strong reference (handle, queued
    message, …) still exists, and what it returns is an ordinary strong handle. -/
theorem upgrade_iff (s s' : Sys) (h : Nat) (hs : step? s (.upgrade h) = some s') :
    (0 < s.strongCount → s'.handles = s.handles ++ [(s.nextHid, true)]) ∧
    (s.strongCount = 0 → s'.handles = s.handles) :=
  ⟨(C07.upgrade_iff s s' h hs).1, fun h0 => ((C07.upgrade_iff s s' h hs).2 h0).1⟩

/-- `upgrade_truthful_monitor`: in every run, every failed upgrade happened while the script held no strong
    handle - the very predicate (`Monitor.C11.upgradeTruthful`) that is evaluated on real traces - and the
    strong handles read off the trace are exactly those of the handle table -/
theorem upgrade_truthful_monitor (cap : Nat) (sc : Script) (ls : List Label) (s : Sys)
    (hr : run? (init cap sc) ls = some s) :
    Monitor.C11.upgradeTruthful s.ev = true ∧
    (s.ev.foldl Monitor.C11.upStep ([0], true)).1 = strongIds s.handles :=
  have hf := (Reachable.of_run hr).hInv.1
  ⟨congrArg Prod.snd hf, congrArg Prod.fst hf⟩

example : ids 5 = [1, 2, 3, 4, 5] := by decide

/-! ### ties to the source: identity is copied into every derived handle; is_alive / upgrade look at both channels -/
-- @tie Rsactor.Ties.handle_algebra_shape
-- @tie Rsactor.Ties.spawn_shape
-- @tie Rsactor.Ties.forwarders_verbatim

end Rsactor.Props.C11
