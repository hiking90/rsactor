/-
  C20 — Metrics count what happened.
  The collector (`Metrics`, `record_message`, the accessors and `snapshot_`) is the translation of
  src/metrics/collector.rs regenerated on every run; the guard's behaviour (records exactly once, on drop,
  with the elapsed time; nothing at creation) is the extracted `metrics_guard_shape`.
-/
import Rsactor.Inv.Life
import Rsactor.Ties.metrics_guard_shape
import Rsactor.Ties.metrics_placement_shape

namespace Rsactor.Props.C20
open Rsactor.Model Rsactor.Monitor Rsactor.Extracted

/-- the collector after recording the given durations (nanoseconds), in order -/
def recordAll (ds : List Nat) (m : Metrics := {}) : Metrics := ds.foldl Metrics.record_message m

@[simp] theorem recordAll_nil (m : Metrics) : recordAll [] m = m := rfl
@[simp] theorem recordAll_cons (d : Nat) (ds : List Nat) (m : Metrics) :
    recordAll (d :: ds) m = recordAll ds (m.record_message d) := rfl

theorem record_count (m : Metrics) (d : Nat) : (m.record_message d).message_count = m.message_count + 1 := rfl
theorem record_errors (m : Metrics) (d : Nat) : (m.record_message d).error_count = m.error_count := rfl

/-- `count_len`: message_count is the number of recorded messages, for every sequence of durations -/
theorem count_len (ds : List Nat) (m : Metrics) :
    (recordAll ds m).message_count = m.message_count + ds.length := by
  induction ds generalizing m with
  | nil => rfl
  | cons d ds ih => rw [recordAll_cons, ih, record_count, Nat.add_right_comm]; rfl

/-- `count_monotone`: recording never decreases the count (so no reader ever sees it go down) -/
theorem count_monotone (ds : List Nat) (m : Metrics) : m.message_count ≤ (recordAll ds m).message_count :=
  count_len ds m ▸ Nat.le_add_right ..

/-- the collector's invariant: total ≤ count × max (saturation only lowers the total) -/
def MInv (m : Metrics) : Prop := m.total_processing_nanos ≤ m.message_count * m.max_processing_nanos

theorem satAdd_le (a b : Nat) : satAdd a b ≤ a + b := Nat.min_le_left ..

theorem record_inv (m : Metrics) (d : Nat) (h : MInv m) : MInv (m.record_message d) :=
  calc satAdd m.total_processing_nanos (Nat.min d U64MAX)
    _ ≤ m.total_processing_nanos + Nat.min d U64MAX := satAdd_le ..
    _ ≤ m.message_count * _ + _ :=
        Nat.add_le_add (Nat.le_trans h (Nat.mul_le_mul_left _ (Nat.le_max_left ..))) (Nat.le_max_right ..)
    _ = (m.message_count + 1) * Nat.max m.max_processing_nanos (Nat.min d U64MAX) := (Nat.succ_mul ..).symm

theorem recordAll_inv (ds : List Nat) (m : Metrics) (h : MInv m) : MInv (recordAll ds m) := by
  induction ds generalizing m with
  | nil => exact h
  | cons d ds ih => exact ih _ (record_inv m d h)

/-- `avg_le_max`: for every sequence of handler durations, avg_processing_time ≤ max_processing_time -/
theorem avg_le_max (ds : List Nat) :
    (recordAll ds).avg_processing_time_ ≤ (recordAll ds).max_processing_time_ := by
  have h : MInv (recordAll ds) := recordAll_inv ds {} (Nat.le_refl 0)
  dsimp only [Metrics.avg_processing_time_]
  split
  · exact Nat.div_le_of_le_mul h
  · exact Nat.zero_le _

theorem max_mono (ds : List Nat) (m : Metrics) : m.max_processing_nanos ≤ (recordAll ds m).max_processing_nanos := by
  induction ds generalizing m with
  | nil => exact Nat.le_refl _
  | cons d ds ih => exact Nat.le_trans (Nat.le_max_left _ _) (ih (m.record_message d))

/-- `max_ge_each`: max_processing_time is at least every recorded duration (capped at u64::MAX ns ≈ 584 years) -/
theorem max_ge_each (ds : List Nat) (m : Metrics) (d : Nat) (hd : d ∈ ds) :
    Nat.min d U64MAX ≤ (recordAll ds m).max_processing_time_ := by
  induction ds generalizing m with
  | nil => cases hd
  | cons x xs ih =>
    rcases List.mem_cons.mp hd with rfl | h
    · exact Nat.le_trans (Nat.le_max_right m.max_processing_nanos _) (max_mono xs (m.record_message d))
    · exact ih _ h

/-- `snapshot_agrees`: the snapshot is the four accessors, in every state of the collector -/
theorem snapshot_agrees (m : Metrics) :
    m.snapshot_.message_count = m.message_count_ ∧ m.snapshot_.avg_processing_time = m.avg_processing_time_ ∧
    m.snapshot_.max_processing_time = m.max_processing_time_ ∧ m.snapshot_.error_count = m.error_count_ :=
  ⟨rfl, rfl, rfl, rfl⟩

/-! ### placement: what the actor loop records -/

/-- the guard is dropped when the handler is left (normally or by a panic): one record per `handlerEnd` -/
def recorded (dur : Nat → Nat) (ev : List Ev) : List Nat :=
  ev.filterMap fun | .handlerEnd m _ => some (dur m) | _ => none

def metricsOf (dur : Nat → Nat) (ev : List Ev) : Metrics := recordAll (recorded dur ev)

def inH : C04.Ph → Nat | .inHandler _ => 1 | _ => 0

theorem recorded_eq (dur : Nat → Nat) (ev : List Ev) : recorded dur ev = (endedMids ev).map dur :=
  (congrArg (List.filterMap · ev) (funext fun e => by cases e <;> rfl)).trans List.map_filterMap.symm

/-- `count_exact`: in every reachable state, message_count is the number of handlers entered, minus the
    one still running (none at quiescence); stop markers and leftovers never enter a handler -/
theorem count_exact (cap : Nat) (sc : Script) (ls : List Label) (s : Sys) (dur : Nat → Nat)
    (hr : run? (init cap sc) ls = some s) :
    (metricsOf dur s.ev).message_count + inH (phOf s.pc) = (startedMids s.ev).length := by
  rw [(Reachable.of_run hr).handlers, List.length_append, metricsOf, count_len, recorded_eq, List.length_map,
    Nat.zero_add]
  cases s.pc <;> rfl

/-- `never_decreases`: along any run the count only grows -/
theorem never_decreases (dur : Nat → Nat) (ev chunk : List Ev) :
    (metricsOf dur ev).message_count ≤ (metricsOf dur (ev ++ chunk)).message_count := by
  have : metricsOf dur (ev ++ chunk) = recordAll (recorded dur chunk) (metricsOf dur ev) := by
    rw [metricsOf, recorded, List.filterMap_append]; exact List.foldl_append
  rw [this]
  exact count_monotone ..

/-- at quiescence the derived statistics obey the laws above -/
theorem avg_le_max_run (dur : Nat → Nat) (ev : List Ev) :
    (metricsOf dur ev).avg_processing_time_ ≤ (metricsOf dur ev).max_processing_time_ := avg_le_max _

theorem max_ge_handler (dur : Nat → Nat) (ev : List Ev) (m : Nat) (o : HOut) (h : Ev.handlerEnd m o ∈ ev) :
    Nat.min (dur m) U64MAX ≤ (metricsOf dur ev).max_processing_time_ :=
  max_ge_each _ _ _ (List.mem_filterMap.mpr ⟨_, h, rfl⟩)

-- non-vacuity: three handlers of 5, 9 and 2 ns
example : (recordAll [5, 9, 2]).message_count = 3 ∧ (recordAll [5, 9, 2]).avg_processing_time_ = 5 ∧
          (recordAll [5, 9, 2]).max_processing_time_ = 9 := by decide

/-! ### ties to the source -/
-- @tie Rsactor.Ties.metrics_guard_shape
-- @tie Rsactor.Ties.metrics_placement_shape

end Rsactor.Props.C20
